import Dicom.Proofs.Loop
import Dicom.Proofs.Table
/-! The invariant of the provider loop model, for every schedule. -/
namespace Dicom.Prov
open Dicom.UL

def TimerOk (p : P) : Prop := p.timer = true ↔ (p.st = .s2 ∨ p.st = .s13)

/-- quiescent: nothing pending, ARTIM consistent, idle exactly when the transport is closed -/
def Quiet (p : P) : Prop :=
  p.crashed = false ∧ TimerOk p ∧ p.evq = [] ∧ (p.st = .s1 ↔ p.sock = false)

/-- exactly event `e` is pending, in a state consistent for it: Evt17 is raised with the transport already
closed, Evt5 is queued at the acceptor's start with the state still idle -/
def Pending (e : Ev) (p : P) : Prop :=
  p.crashed = false ∧ TimerOk p ∧ p.evq = [e] ∧
  (e = .e17 → p.sock = false ∧ p.st ≠ .s1) ∧
  (e = .e5 → p.sock = true ∧ p.st = .s1) ∧
  (e ≠ .e17 → e ≠ .e5 → (p.st = .s1 ↔ p.sock = false))

/-- the loop invariant: while the loop is alive the state is quiet, or one of two transient shapes, which are
`Pending .e5` (the acceptor's start) and `Pending .e17` (after a failed write) — see `PInv.cases` -/
def PInv (p : P) : Prop :=
  p.crashed = false →
    (Quiet p ∨ (TimerOk p ∧ p.sock = true ∧ p.st = .s1 ∧ p.evq = [.e5]) ∨
      (TimerOk p ∧ p.sock = false ∧ p.st ≠ .s1 ∧ p.evq = [.e17]))

/-! `TimerOk`, `Quiet` and `Pending` read only the fields `crashed`, `st`, `sock`, `timer`, `evq`: a proof about one
state is, by unfolding, a proof about any state that agrees with it there (`arrive p t`, a state with other unread
input, ...), and is used as such without a transport lemma. -/

theorem TimerOk.idle {p : P} (h : TimerOk p) (h1 : p.st = .s1) : p.timer = false :=
  Bool.eq_false_iff.mpr fun ht => by simpa [h1] using h.mp ht

theorem Quiet.alive {p : P} (h : Quiet p) : p.crashed = false := h.1
theorem Quiet.timerOk {p : P} (h : Quiet p) : TimerOk p := h.2.1
theorem Quiet.evq {p : P} (h : Quiet p) : p.evq = [] := h.2.2.1
theorem Quiet.idle_iff {p : P} (h : Quiet p) : p.st = .s1 ↔ p.sock = false := h.2.2.2
theorem Pending.evq {e : Ev} {p : P} (h : Pending e p) : p.evq = [e] := h.2.2.1
theorem Pending.e5 {p : P} (h : Pending .e5 p) : p.sock = true ∧ p.st = .s1 := h.2.2.2.2.1 rfl
theorem Pending.e17 {p : P} (h : Pending .e17 p) : p.sock = false ∧ p.st ≠ .s1 := h.2.2.2.1 rfl

theorem Quiet.sock_iff {p : P} (h : Quiet p) : p.sock = true ↔ p.st ≠ .s1 := by
  rw [Ne, h.idle_iff]; cases p.sock <;> simp

/-- a quiet state in which a poll has raised `e`: the form in which `PolledRest` and `Polled` give it -/
theorem Quiet.pending {p : P} (h : Quiet p) {e : Ev} (he : e ≠ .e17 ∧ e ≠ .e5) :
    Pending e { p with evq := p.evq ++ [e] } :=
  ⟨h.alive, h.timerOk, congrArg (· ++ [e]) h.evq, fun x => absurd x he.1, fun x => absurd x he.2, fun _ _ => h.idle_iff⟩

theorem Quiet.inv {p : P} (h : Quiet p) : PInv p := fun _ => .inl h

theorem PInv.cases {p : P} (h : PInv p) (hc : p.crashed = false) : Quiet p ∨ Pending .e5 p ∨ Pending .e17 p := by
  rcases h hc with hq | ⟨htm, hsk, hst, hev⟩ | ⟨htm, hsk, hst, hev⟩
  · exact .inl hq
  · exact .inr (.inl ⟨hc, htm, hev, by simp, fun _ => ⟨hsk, hst⟩, by simp⟩)
  · exact .inr (.inr ⟨hc, htm, hev, fun _ => ⟨hsk, hst⟩, by simp, by simp⟩)

theorem PInv.timerOk {p : P} (h : PInv p) (hc : p.crashed = false) : TimerOk p := by
  rcases h.cases hc with h | h | h <;> exact h.2.1

theorem PInv.quiet {p : P} (h : PInv p) (hc : p.crashed = false) (he : p.evq = []) : Quiet p := by
  rcases h.cases hc with h | h | h
  · exact h
  all_goals rw [h.evq] at he; cases he

theorem evOfRx_ne (r : Rx) : evOfRx r ≠ .e17 ∧ evOfRx r ≠ .e5 := by cases r <;> simp [evOfRx]
theorem evOfRx_ne_e1 (r : Rx) : evOfRx r ≠ .e1 := by cases r <;> simp [evOfRx]
theorem evOfTx_ne (t : Tx) : evOfTx t ≠ .e17 ∧ evOfTx t ≠ .e5 := by cases t <;> simp [evOfTx]

theorem PolledRest.quiet {p q : P} (hp : PolledRest p q) (h : Quiet p) : Quiet q ∨ ∃ e, Pending e q := by
  cases hp with
  | idle => exact .inl h
  | frag | msg => exact .inr ⟨.e9, h.pending (by simp)⟩
  | user t => exact .inr ⟨_, h.pending (evOfTx_ne t)⟩
  | artim => exact .inr ⟨.e18, h.pending (by simp)⟩

theorem Polled.quiet {p q : P} (hp : Polled p q) (h : Quiet p) : Quiet q ∨ ∃ e, Pending e q := by
  cases hp with
  | closed _ hr | nothing _ _ _ _ hr | emptySegment _ _ _ _ _ hr => exact hr.quiet h
  | connected => exact .inr ⟨.e2, h.pending (by simp)⟩
  | buffered r | segment r => exact .inr ⟨_, h.pending (evOfRx_ne r)⟩
  | eof _ hs =>
    -- the reader has closed the socket itself; the state is not Sta1 because the socket was open
    exact .inr ⟨.e17, h.alive, h.timerOk, congrArg (· ++ [.e17]) h.evq, fun _ => ⟨rfl, h.sock_iff.mp hs⟩, by simp, by simp⟩

theorem prePoll_inv {p : P} (h : PInv p) (hc : p.crashed = false) (t : Tick) :
    Quiet (prePoll p t) ∨ ∃ e, Pending e (prePoll p t) := by
  rcases h.cases hc with hq | he | he
  · exact (prePoll_polled t hq.evq).quiet hq
  all_goals rw [prePoll_cons t he.evq]; exact .inr ⟨_, he⟩

/-- every defined cell of Table 9-10, entered as `Pending` says: an action that can write to the transport finds it
open, and the control part is left as `Quiet` wants it -/
theorem cells_quiet : ∀ {e s a}, table e s = some a → ∀ sock timer : Bool,
    (timer = true ↔ (s = .s2 ∨ s = .s13)) →
    (e = .e17 → sock = false ∧ s ≠ .s1) → (e = .e5 → sock = true ∧ s = .s1) →
    (e ≠ .e17 → e ≠ .e5 → (s = .s1 ↔ sock = false)) →
    (writes a = true → sock = true ∧ s ≠ .s1) ∧
    ∀ req rej : Bool,
      ((ctlStep a req rej sock timer).timer = true ↔
        ((ctlStep a req rej sock timer).st = .s2 ∨ (ctlStep a req rej sock timer).st = .s13)) ∧
      ((ctlStep a req rej sock timer).st = .s1 ↔ (ctlStep a req rej sock timer).sock = false) :=
  by apply table_forall; decide +kernel

theorem Pending.open {e : Ev} {q : P} {a : Act} (h : Pending e q) (ht : table e q.st = some a)
    (hw : writes a = true) : q.sock = true ∧ q.st ≠ .s1 := by
  obtain ⟨_, htm, _, h17, h5, hs⟩ := h
  exact (cells_quiet ht q.sock q.timer htm h17 h5 hs).1 hw

theorem dispatch_pending {e : Ev} {q : P} {sf : Bool} (h : Pending e q) : PInv (dispatch q sf).1 := by
  obtain ⟨hc, htm, hq, h17, h5, hs⟩ := h
  cases ht : table e q.st with
  | none => rw [dispatch_undefined hq ht]; exact fun h => by cases h
  | some a =>
    have hcells := cells_quiet ht q.sock q.timer htm h17 h5 hs
    cases hf : sf && sends a q with
    | true =>
      rw [dispatch_sendFails hq ht hf, dropGen_eq]
      -- the action writes to the transport, so it does not run in Sta1: the third shape of `PInv`
      exact fun _ => .inr (.inr ⟨htm, rfl, (hcells.1 (sends_writes (Bool.and_eq_true_iff.mp hf).2)).2, rfl⟩)
    | false =>
      rw [dispatch_act hq ht hf, dropGen_eq, act_eq]
      have hctl := hcells.2 q.requestor (q.rx == some .pdataErr)
      exact Quiet.inv ⟨hc, hctl.1, rfl, hctl.2⟩

theorem iter_inv {p : P} {t : Tick} (h : PInv p) : PInv (iter p t).1 :=
  iter_keeps h fun hc => by
    rcases prePoll_inv h hc t with hq | ⟨e, he⟩
    · rw [dispatch_nil hq.evq]; exact hq.inv
    · exact dispatch_pending he

theorem run_inv {p : P} (h : PInv p) (ts : List Tick) : PInv (run p ts).1 :=
  run_induction (T := fun _ => True) (fun h _ => iter_inv h) h fun _ _ => trivial

theorem initAcc_inv : PInv initAcc := by
  intro _; right; left; simp [initAcc, TimerOk]

theorem initReq_inv : PInv initReq := by
  intro _; left; simp [initReq, Quiet, TimerOk]

end Dicom.Prov
