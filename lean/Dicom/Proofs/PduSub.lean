import Dicom.Model.Pdu
/-! The lenient decoder reads back what the encoder writes, part one: text fields and stripping, the 4-byte item
header, sub-items.  The well-formedness predicates the property statements use are defined here and in `PduDecode`
(`ascii`, `utf8`, `trimmed`, `uidOk`, `titleOk`, `SubItem.WF`), next to the lemmas that need them.  Arguments of the
`_enc` lemmas: the values, their bounds, the rest of the stream; for a loop the list, its well-formedness, the rest,
the fuel and its bound. -/
namespace Dicom

def ascii (l : Bytes) : Prop := ∀ b ∈ l, b.toNat < 128

/-- well-formed UTF-8: the text fields the library keeps as encoded bytes (User Identity) may carry any of it -/
def utf8 (l : Bytes) : Prop := validUtf8 l = true

theorem utf8_of_ascii (l : Bytes) (h : ascii l) : utf8 l := by
  induction l with
  | nil => rfl
  | cons a r ih =>
    obtain ⟨ha, hr⟩ := List.forall_mem_cons.1 h
    unfold utf8 validUtf8
    simp only [ha, ↓reduceIte]
    exact ih hr

theorem decodeText_utf8 (l : Bytes) (h : utf8 l) : decodeText l = some l := if_pos h

theorem decodeText_ascii (l : Bytes) (h : ascii l) : decodeText l = some l := decodeText_utf8 l (utf8_of_ascii l h)

/-- no leading and no trailing byte satisfying `p` -/
def trimmed (p : UInt8 → Bool) (l : Bytes) : Prop := stripLeft p l = l ∧ stripLeft p l.reverse = l.reverse

/-- `stripLeft` is `List.dropWhile`: everything about stripping comes from there -/
theorem stripLeft_eq_dropWhile (p : UInt8 → Bool) : ∀ l, stripLeft p l = l.dropWhile p
  | [] => rfl
  | a :: r => by simp only [stripLeft, List.dropWhile_cons, stripLeft_eq_dropWhile p r]

theorem dropWhile_eq_self {α : Type} {p : α → Bool} {l : List α} : l.dropWhile p = l ↔ ∀ a ∈ l.head?, p a = false := by
  refine ⟨fun h a ha => ?_, fun h => ?_⟩
  · have := List.head?_dropWhile_not p l
    rw [h, ha] at this; exact this
  · cases l with
    | nil => rfl
    | cons a t => exact List.dropWhile_cons_of_neg (Bool.eq_false_iff.1 (h a rfl))

theorem dropWhile_dropWhile {α : Type} (p : α → Bool) (l : List α) : (l.dropWhile p).dropWhile p = l.dropWhile p := by
  refine dropWhile_eq_self.2 fun a ha => ?_
  have := List.head?_dropWhile_not p l
  rw [ha] at this; exact this

theorem dropWhile_prefix_self {α : Type} {p : α → Bool} {k r : List α} (h : (k ++ r).dropWhile p = k ++ r) :
    k.dropWhile p = k := by
  cases k with
  | nil => rfl
  | cons a t => exact dropWhile_eq_self.2 ((dropWhile_eq_self (l := a :: t ++ r)).1 h)

theorem strip_of_trimmed (p : UInt8 → Bool) (l : Bytes) (h : trimmed p l) : strip p l = l := by
  rw [strip, h.1, h.2, List.reverse_reverse]

theorem strip_append {p : UInt8 → Bool} {m suf : Bytes} (hm : trimmed p m) (hsuf : ∀ b ∈ suf, p b) :
    strip p (m ++ suf) = m := by
  cases m with
  | nil =>
    have : suf.dropWhile p = [] := List.append_nil suf ▸ List.dropWhile_append_of_pos (l₂ := []) hsuf
    simp only [strip, stripLeft_eq_dropWhile, List.nil_append, this, List.reverse_nil, List.dropWhile_nil]
  | cons a t =>
    simp only [trimmed, stripLeft_eq_dropWhile] at hm
    have h1 : ((a :: t) ++ suf).dropWhile p = (a :: t) ++ suf :=
      dropWhile_eq_self.2 ((dropWhile_eq_self (l := a :: t)).1 hm.1)
    rw [strip, stripLeft_eq_dropWhile, stripLeft_eq_dropWhile, h1, List.reverse_append,
      List.dropWhile_append_of_pos (fun b hb => hsuf b (List.mem_reverse.1 hb)), hm.2, List.reverse_reverse]

theorem strip_sublist (p : UInt8 → Bool) (l : Bytes) : (strip p l).Sublist l := by
  simp only [strip, stripLeft_eq_dropWhile]
  exact (List.reverse_sublist.1 (by rw [List.reverse_reverse]; exact List.dropWhile_sublist p)).trans
    (List.dropWhile_sublist p)

theorem trimmed_strip (p : UInt8 → Bool) (l : Bytes) : trimmed p (strip p l) := by
  obtain ⟨suf, h2⟩ := List.dropWhile_suffix p (l := (l.dropWhile p).reverse)
  simp only [trimmed, strip, stripLeft_eq_dropWhile, List.reverse_reverse, dropWhile_dropWhile, and_true]
  -- the stripped list is what is left of `l.dropWhile p` when a suffix is taken off, and that has no leading `p`
  refine dropWhile_prefix_self (r := suf.reverse) ?_
  rw [← List.reverse_append, h2, List.reverse_reverse, dropWhile_dropWhile]

/-- a UID as it survives `uid.UID(...)`: ASCII, no white space at either end -/
def uidOk (u : Bytes) : Prop := ascii u ∧ trimmed isWs u

theorem decodeUid_uidOk (u : Bytes) (h : uidOk u) : decodeUid u = some u := by
  rw [decodeUid, decodeText_ascii u h.1, Option.map_some, strip_of_trimmed isWs u h.2]

/-- an AE title as it survives NUL padding and stripping: at most 16 bytes, ASCII, no NUL at the ends -/
def titleOk (t : Bytes) : Prop := t.length ≤ 16 ∧ ascii t ∧ trimmed (· == 0) t

theorem pad16_eq (t : Bytes) (h : t.length ≤ 16) : pad16 t = t ++ List.replicate (16 - t.length) 0 := by
  simp only [pad16, List.take_append, List.take_of_length_le h, List.take_replicate,
    Nat.min_eq_left (Nat.sub_le 16 t.length)]

theorem pad16_length (t : Bytes) : (pad16 t).length = 16 := by
  rw [pad16, List.length_take, List.length_append, List.length_replicate, Nat.min_eq_left (Nat.le_add_left 16 _)]

theorem strip_pad16 (t : Bytes) (hl : t.length ≤ 16) (ht : trimmed (· == 0) t) : strip (· == 0) (pad16 t) = t := by
  rw [pad16_eq t hl]
  exact strip_append ht fun b hb => by rw [List.eq_of_mem_replicate hb]; rfl

theorem titleOk_strip (t : Bytes) (hl : t.length ≤ 16) (ha : ascii t) : titleOk (strip (· == 0) t) := by
  have hs := strip_sublist (· == 0) t
  exact ⟨Nat.le_trans hs.length_le hl, fun b hb => ha b (hs.subset hb), trimmed_strip _ t⟩

theorem decodeTitle_pad16 (t : Bytes) (h : titleOk t) : decodeTitle (pad16 t) = some t := by
  rw [decodeTitle, strip_pad16 t h.1 h.2.2, decodeText_ascii t h.2.1]

theorem rdHdr4_enc (t rsv n : Nat) (ht : t < 256) (hr : rsv < 256) (hn : n < 65536) (rest : Bytes) :
    rdHdr4 (u8 t ++ (u8 rsv ++ (be16 n ++ rest))) = some (t, rsv, n, rest) := by
  simp only [rdHdr4, u8, be16, List.cons_append, List.nil_append, u8_toNat t ht, u8_toNat rsv hr, be16_toNat n hn]

theorem rd8_u8 (n : Nat) (h : n < 256) (r : Bytes) : rd8 (u8 n ++ r) = some (n, r) := rd8_ofNat n h r

theorem u8_of_byte (t : UInt8) : u8 t.toNat = [t] := by rw [u8, UInt8.ofNat_toNat]

/-- `rd8_u8` where a reader has compared the byte with a literal -/
theorem u8_of_toNat_eq {t : UInt8} {n : Nat} (h : t.toNat = n) : u8 n = [t] := h ▸ u8_of_byte t

@[simp] theorem u8_length (n : Nat) : (u8 n).length = 1 := rfl

def knownSubType (t : Nat) : Prop :=
  t = 0x51 ∨ t = 0x52 ∨ t = 0x53 ∨ t = 0x54 ∨ t = 0x55 ∨ t = 0x56 ∨ t = 0x58 ∨ t = 0x59

def SubItem.WF : SubItem → Prop
  | .maxLen rsv il ml => rsv < 256 ∧ il < 65536 ∧ ml < 4294967296
  | .implClass rsv uid => rsv < 256 ∧ uidOk uid ∧ uid.length < 65536
  | .asyncOps rsv il i p => rsv < 256 ∧ il < 65536 ∧ i < 65536 ∧ p < 65536
  | .role rsv uid scu scp => rsv < 256 ∧ uidOk uid ∧ uid.length + 4 < 65536 ∧ scu < 256 ∧ scp < 256
  | .implVersion rsv n => rsv < 256 ∧ ascii n ∧ n.length < 65536
  | .extNeg rsv uid info => rsv < 256 ∧ uidOk uid ∧ 2 + uid.length + info.length < 65536
  | .userId rsv ty pr p s => rsv < 256 ∧ ty < 256 ∧ pr < 256 ∧ utf8 p ∧ utf8 s ∧ 6 + p.length + s.length < 65536
  | .userIdAc rsv r => rsv < 256 ∧ utf8 r ∧ 2 + r.length < 65536
  | .generic ty rsv d => ty < 256 ∧ ty ≠ 0 ∧ ¬ knownSubType ty ∧ rsv < 256 ∧ d.length < 65536

/-- type code, reserved byte, length field as written, and body of a sub-item:
`s.enc = u8 s.ty ++ u8 s.rsv ++ be16 s.len ++ s.body` -/
def SubItem.ty : SubItem → Nat
  | .maxLen .. => 0x51 | .implClass .. => 0x52 | .asyncOps .. => 0x53 | .role .. => 0x54
  | .implVersion .. => 0x55 | .extNeg .. => 0x56 | .userId .. => 0x58 | .userIdAc .. => 0x59
  | .generic t _ _ => t

def SubItem.rsv : SubItem → Nat
  | .maxLen r _ _ | .implClass r _ | .asyncOps r _ _ _ | .role r _ _ _ | .implVersion r _
  | .extNeg r _ _ | .userId r _ _ _ _ | .userIdAc r _ | .generic _ r _ => r

def SubItem.len : SubItem → Nat
  | .maxLen _ il _ => il
  | .implClass _ u => u.length
  | .asyncOps _ il _ _ => il
  | .role _ u _ _ => 4 + u.length
  | .implVersion _ n => n.length
  | .extNeg _ u i => 2 + u.length + i.length
  | .userId _ _ _ p s => 6 + p.length + s.length
  | .userIdAc _ r => 2 + r.length
  | .generic _ _ d => d.length

def SubItem.body : SubItem → Bytes
  | .maxLen _ _ ml => be32 ml
  | .implClass _ u => u
  | .asyncOps _ _ i p => be16 i ++ be16 p
  | .role _ u a b => be16 u.length ++ (u ++ (u8 a ++ u8 b))
  | .implVersion _ n => n
  | .extNeg _ u i => be16 u.length ++ (u ++ i)
  | .userId _ t pr p s => u8 t ++ (u8 pr ++ (be16 p.length ++ (p ++ (be16 s.length ++ s))))
  | .userIdAc _ r => be16 r.length ++ r
  | .generic _ _ d => d

theorem SubItem.enc_eq (s : SubItem) : s.enc = u8 s.ty ++ (u8 s.rsv ++ (be16 s.len ++ s.body)) := by
  cases s <;> (simp only [SubItem.enc, List.append_assoc]; rfl)

theorem SubItem.hdr_bounds (s : SubItem) (h : s.WF) : s.ty < 256 ∧ s.rsv < 256 ∧ s.len < 65536 := by
  -- `Nat.add_comm 4` is for `role`, where `WF` has `uid.length + 4` and `len` is `4 + uid.length`
  cases s <;> dsimp only [SubItem.WF] at h <;>
    simp only [SubItem.ty, SubItem.rsv, SubItem.len, h, Nat.reduceLT, and_self, Nat.add_comm 4]

theorem not_knownSubType {t : Nat} : ¬ knownSubType t ↔
    t ≠ 0x51 ∧ t ≠ 0x52 ∧ t ≠ 0x53 ∧ t ≠ 0x54 ∧ t ≠ 0x55 ∧ t ≠ 0x56 ∧ t ≠ 0x58 ∧ t ≠ 0x59 := by
  simp only [knownSubType, not_or, ne_eq]

/-- an encoding followed by anything starts with the type byte, and the header reads back: the input as a variable
that carries these two facts, so that a decoder unfolds over a small term -/
theorem rdHdr4_enc_cons {t rsv n : Nat} (body : Bytes) (h : t < 256 ∧ rsv < 256 ∧ n < 65536) (rest : Bytes) :
    ∃ b s', u8 t ++ (u8 rsv ++ (be16 n ++ body)) ++ rest = b :: s' ∧ b.toNat = t ∧
      rdHdr4 (b :: s') = some (t, rsv, n, body ++ rest) :=
  ⟨UInt8.ofNat t, _, by simp only [List.append_assoc]; rfl, u8_toNat t h.1, rdHdr4_enc t rsv n h.1 h.2.1 h.2.2 (body ++ rest)⟩

theorem decSub_enc (s : SubItem) (h : s.WF) (rest : Bytes) : decSub (s.enc ++ rest) = some (s, rest) := by
  obtain ⟨b, s', he, hb, hh⟩ := rdHdr4_enc_cons s.body (s.hdr_bounds h) rest
  rw [s.enc_eq, he]
  cases s <;> dsimp only [SubItem.ty, SubItem.rsv, SubItem.len, SubItem.body] at hb hh <;> unfold decSub
  case generic => simp only [hb, hh, not_knownSubType.1 h.2.2.1, ↓reduceIte, List.take_left, List.drop_left]
  -- the type byte selects the branch and the header is read; what is left is to read the fields of the body back
  all_goals simp only [hb, hh, Nat.reduceEqDiff, ↓reduceIte, List.append_assoc]
  case maxLen rsv il ml => simp only [rd32_be32 ml h.2.2]
  case implClass rsv uid => simp only [List.take_left, List.drop_left, decodeUid_uidOk uid h.2.1, Option.map]
  case asyncOps rsv il i p => simp only [rd16_be16 i h.2.2.1, rd16_be16 p h.2.2.2]
  case role rsv uid scu scp =>
    obtain ⟨_, h2, h3, h4, h5⟩ := h
    simp only [rd16_be16 uid.length (Nat.lt_of_add_right_lt h3), List.take_left, List.drop_left, decodeUid_uidOk uid h2,
      rd8_u8 scu h4, rd8_u8 scp h5]
  case implVersion rsv n => simp only [List.take_left, List.drop_left, decodeText_ascii n h.2.1, Option.map]
  case extNeg rsv uid info =>
    -- the item length is `uid.length + 2 + info.length`: what it leaves after the UID and its length field is the information
    simp only [rd16_be16 uid.length (Nat.lt_of_add_left_lt (Nat.lt_of_add_right_lt h.2.2)), List.take_left, List.drop_left,
      decodeUid_uidOk uid h.2.1, Nat.add_comm 2 uid.length, Nat.not_lt.2 (Nat.le_add_right (uid.length + 2) info.length),
      Nat.sub_sub, Nat.add_sub_cancel_left, ↓reduceIte]
  case userId rsv ty pr p s =>
    obtain ⟨_, h2, h3, h4, h5, h6⟩ := h
    simp only [rd8_u8 ty h2, rd8_u8 pr h3, rd16_be16 p.length (Nat.lt_of_add_left_lt (Nat.lt_of_add_right_lt h6)),
      rd16_be16 s.length (Nat.lt_of_add_left_lt h6), List.take_left, List.drop_left, decodeText_utf8 p h4, decodeText_utf8 s h5]
  case userIdAc rsv r =>
    simp only [rd16_be16 r.length (Nat.lt_of_add_left_lt h.2.2), List.take_left, List.drop_left, decodeText_utf8 r h.2.1,
      Option.map]

theorem SubItem.enc_head (s : SubItem) (h : s.WF) : ∃ b r, s.enc = b :: r ∧ b ≠ 0 := by
  refine ⟨UInt8.ofNat s.ty, _, s.enc_eq.trans List.singleton_append, fun e => ?_⟩
  have := congrArg UInt8.toNat e
  rw [u8_toNat _ (s.hdr_bounds h).1] at this
  cases s with
  | generic => exact h.2.1 this
  | _ => cases this

theorem decSubs_enc (l : List SubItem) (h : ∀ s ∈ l, s.WF) (rest : Bytes) (hr : rest = [] ∨ ∃ r, rest = 0 :: r) (f : Nat)
    (hf : l.length < f) : decSubs f (encSubs l ++ rest) = some (l, rest) := by
  induction l, f, hf using fuel_induction with
  | nil => rcases hr with rfl | ⟨r, rfl⟩ <;> rfl
  | cons s ss f _ ih =>
    obtain ⟨hs, hss⟩ := List.forall_mem_cons.1 h
    obtain ⟨b, r, he, hb⟩ := s.enc_head hs
    have hd := decSub_enc s hs (encSubs ss ++ rest)
    show decSubs (f + 1) (s.enc ++ encSubs ss ++ rest) = _
    rw [he] at hd ⊢
    simp only [List.append_assoc, List.cons_append] at hd ⊢
    simp only [decSubs, hb, ↓reduceIte, hd, ih hss, Option.map]

end Dicom
