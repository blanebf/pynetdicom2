import Dicom.Proofs.Actions
/-! The stages of one pass of the loop (`arrive`, `poll`, `dispatch`), each characterised once; the unread input as
one token stream (`stream`); what every pass and every run keeps (`iter_keeps`, `run_induction`, `run_append`). -/
namespace Dicom.Prov
open Dicom.UL

theorem dropGen_eq (p : P) : dropGen p = { p with gen := if p.st = .s6 ∨ p.st = .s8 then p.gen else 0 } := by
  unfold dropGen; split <;> rfl

theorem dispatch_nil {q : P} {sf : Bool} (h : q.evq = []) : dispatch q sf = (q, []) := by
  simp [dispatch, h]

theorem dispatch_undefined {q : P} {e : Ev} {r : List Ev} {sf : Bool} (h : q.evq = e :: r)
    (ht : table e q.st = none) :
    dispatch q sf = ({ q with evq := r, crashed := true }, [.indAbort 0, .crash]) := by
  simp only [dispatch, h, ht]

theorem dispatch_sendFails {q : P} {e : Ev} {r : List Ev} {a : Act} {sf : Bool} (h : q.evq = e :: r)
    (ht : table e q.st = some a) (hf : (sf && sends a q) = true) :
    dispatch q sf = (dropGen { q with evq := r ++ [.e17], sock := false }, [.close]) := by
  simp only [dispatch, h, ht, hf, ↓reduceIte]

theorem dispatch_act {q : P} {e : Ev} {r : List Ev} {a : Act} {sf : Bool} (h : q.evq = e :: r)
    (ht : table e q.st = some a) (hf : (sf && sends a q) = false) :
    dispatch q sf = (dropGen (act a { q with evq := r }).1, (act a { q with evq := r }).2) := by
  simp only [dispatch, h, ht, hf, Bool.false_eq_true, ↓reduceIte]

/-! Case analysis on `dispatch` is by its own principle, `fun_cases dispatch q sf`, whose four cases come in the order
of the equations above (nothing queued, undefined cell, failed write, the action runs); or, where the cell is looked
at first, by cases on `table e q.st` and those equations. -/

theorem dispatch_footprint (q : P) (sf : Bool) :
    (dispatch q sf).1 =
      { q with st := (dispatch q sf).1.st, sock := (dispatch q sf).1.sock, evq := (dispatch q sf).1.evq,
               timer := (dispatch q sf).1.timer, tstart := (dispatch q sf).1.tstart,
               inbox := (dispatch q sf).1.inbox, gen := (dispatch q sf).1.gen,
               crashed := (dispatch q sf).1.crashed } := by
  fun_cases dispatch q sf
  · rfl
  · rfl
  · rw [dropGen_eq]
  · rw [dropGen_eq, act_eq]

/-- what `_check_outgoing_pdu() or _check_timer()` makes of `p`: at most one event, from the message being
sent, from the head of the user's queue, or from ARTIM -/
inductive PolledRest (p : P) : P → Prop
  | idle (hg : p.gen = 0) (hu : p.fromUser = []) (ht : p.timer = true → p.now - p.tstart ≤ artim) : PolledRest p p
  | frag (hg : 0 < p.gen) : PolledRest p { p with gen := p.gen - 1, evq := p.evq ++ [.e9] }
  | msg (n : Nat) (r : List Tx) (hg : p.gen = 0) (hu : p.fromUser = .msg n :: r) :
      PolledRest p { p with fromUser := r, gen := n, evq := p.evq ++ [.e9] }
  | user (t : Tx) (r : List Tx) (hg : p.gen = 0) (hu : p.fromUser = t :: r) (ht : ∀ n, t ≠ .msg n) :
      PolledRest p { p with fromUser := r, evq := p.evq ++ [evOfTx t] }
  | artim (hg : p.gen = 0) (hu : p.fromUser = []) (ht : p.timer = true) (hx : p.now - p.tstart > artim) :
      PolledRest p { p with evq := p.evq ++ [.e18] }

theorem pollRest_polled (p : P) : PolledRest p (pollRest p) := by
  unfold pollRest
  fun_cases checkOutgoing p with
  | case1 hg => exact .frag hg
  | case2 hg hu =>
    show PolledRest p (checkTimer p).1
    fun_cases checkTimer p with
    | case1 h =>
      obtain ⟨ht, hx⟩ := Bool.and_eq_true_iff.mp h
      exact .artim (Nat.eq_zero_of_not_pos hg) hu ht (of_decide_eq_true hx)
    | case2 h => exact .idle (Nat.eq_zero_of_not_pos hg) hu fun ht => by simpa [ht] using h
  | case3 hg n r hu => exact .msg n r (Nat.eq_zero_of_not_pos hg) hu
  | case4 hg t r ht hu => exact .user t r (Nat.eq_zero_of_not_pos hg) hu ht

/-- what one poll (`_check_network() or _check_outgoing_pdu() or _check_timer()`) makes of `p`: the code paths of
`_check_network`, falling through to the other two checks where the network has nothing complete -/
inductive Polled (p : P) : P → Prop
  | closed {q : P} (hs : p.sock = false) (h : PolledRest p q) : Polled p q
  | connected (hs : p.sock = true) (h4 : p.st = .s4) : Polled p { p with evq := p.evq ++ [.e2] }
  | buffered (r : Rx) (rest : List Rx) (hs : p.sock = true) (h4 : p.st ≠ .s4) (hr : p.raw = r :: rest) :
      Polled p { p with raw := rest, rx := some r, evq := p.evq ++ [evOfRx r] }
  | nothing {q : P} (hs : p.sock = true) (h4 : p.st ≠ .s4) (hr : p.raw = []) (hi : p.inbox = [])
      (h : PolledRest p q) : Polled p q
  | eof (rest : List (Option (List Rx))) (hs : p.sock = true) (h4 : p.st ≠ .s4) (hr : p.raw = [])
      (hi : p.inbox = none :: rest) : Polled p { p with evq := p.evq ++ [.e17], sock := false, inbox := [] }
  | segment (r : Rx) (tl : List Rx) (rest : List (Option (List Rx))) (hs : p.sock = true) (h4 : p.st ≠ .s4)
      (hr : p.raw = []) (hi : p.inbox = some (r :: tl) :: rest) :
      Polled p { p with raw := tl, inbox := rest, rx := some r, evq := p.evq ++ [evOfRx r] }
  | emptySegment {q : P} (rest : List (Option (List Rx))) (hs : p.sock = true) (h4 : p.st ≠ .s4)
      (hr : p.raw = []) (hi : p.inbox = some [] :: rest) (h : PolledRest { p with raw := [], inbox := rest } q) :
      Polled p q

/-- `PolledRest` and `Polled` are the graphs of `pollRest` and `poll`: each constructor is a code path, and read
through `.eq` it is the equation of that path -/
theorem PolledRest.eq {p q : P} (h : PolledRest p q) : pollRest p = q := by
  cases h with
  | idle hg hu ht =>
    have : (p.timer && decide (p.now - p.tstart > Prov.artim)) = false :=
      Bool.and_eq_false_imp.mpr fun h => decide_eq_false (Nat.not_lt.mpr (ht h))
    simp [pollRest, checkOutgoing, checkTimer, hg, hu, this]
  | frag hg => simp [pollRest, checkOutgoing, hg]
  | msg n r hg hu => simp [pollRest, checkOutgoing, hg, hu]
  | user t _ hg hu ht =>
    cases t <;> first | exact absurd rfl (ht _) | simp [pollRest, checkOutgoing, hg, hu]
  | artim hg hu ht hx => simp [pollRest, checkOutgoing, checkTimer, hg, hu, ht, hx]

theorem Polled.eq {p q : P} (h : Polled p q) : poll p = q := by
  cases h with
  | closed _ hr | nothing _ _ _ _ hr | emptySegment _ _ _ _ _ hr =>
    rw [← hr.eq]; simp [poll, checkNetwork, processIncoming, *]
  | _ => simp [poll, checkNetwork, processIncoming, *]

theorem poll_polled (p : P) : Polled p (poll p) := by
  have graph : ∀ {q}, Polled p q → Polled p (poll p) := fun h => h.eq ▸ h
  cases hs : p.sock with
  | false => exact graph (.closed hs (pollRest_polled p))
  | true =>
    by_cases h4 : p.st = .s4
    · exact graph (.connected hs h4)
    · cases hr : p.raw with
      | cons r rest => exact graph (.buffered r rest hs h4 hr)
      | nil =>
        match hi : p.inbox with
        | [] => exact graph (.nothing hs h4 hr hi (pollRest_polled p))
        | none :: rest => exact graph (.eof rest hs h4 hr hi)
        | some [] :: rest => exact graph (.emptySegment rest hs h4 hr hi (pollRest_polled _))
        | some (r :: tl) :: rest => exact graph (.segment r tl rest hs h4 hr hi)

theorem PolledRest.footprint {p q : P} (h : PolledRest p q) :
    q = { p with evq := q.evq, fromUser := q.fromUser, gen := q.gen } := by
  cases h <;> rfl

theorem Polled.footprint {p q : P} (h : Polled p q) :
    q = { p with sock := q.sock, evq := q.evq, rx := q.rx, raw := q.raw, inbox := q.inbox,
                 fromUser := q.fromUser, gen := q.gen } := by
  cases h with
  | closed _ hr | nothing _ _ _ _ hr | emptySegment _ _ _ _ _ hr => rw [hr.footprint]
  | _ => rfl

/-- a poll that closed the socket is the reader meeting the end of the stream: it raised Evt17 -/
theorem Polled.sock {p q : P} (h : Polled p q) (hp : p.sock = true) (hq : q.sock = false) :
    q.evq = p.evq ++ [.e17] := by
  cases h with
  | closed _ hr | nothing _ _ _ _ hr | emptySegment _ _ _ _ _ hr =>
    rw [hr.footprint] at hq; cases hp.symm.trans hq
  | eof => rfl
  | _ => cases hp.symm.trans hq

/-- at most one event is raised, and at most one primitive taken from the head of the user's queue -/
theorem PolledRest.one {p q : P} (h : PolledRest p q) :
    (q.evq = p.evq ∨ ∃ e, q.evq = p.evq ++ [e]) ∧ (q.fromUser = p.fromUser ∨ ∃ x, p.fromUser = x :: q.fromUser) := by
  cases h with
  | idle => exact ⟨.inl rfl, .inl rfl⟩
  | frag | artim => exact ⟨.inr ⟨_, rfl⟩, .inl rfl⟩
  | msg _ _ _ hu | user _ _ _ hu => exact ⟨.inr ⟨_, rfl⟩, .inr ⟨_, hu⟩⟩

theorem Polled.one {p q : P} (h : Polled p q) :
    (q.evq = p.evq ∨ ∃ e, q.evq = p.evq ++ [e]) ∧ (q.fromUser = p.fromUser ∨ ∃ x, p.fromUser = x :: q.fromUser) := by
  cases h with
  | closed _ hr | nothing _ _ _ _ hr | emptySegment _ _ _ _ _ hr => exact hr.one
  | _ => exact ⟨.inr ⟨_, rfl⟩, .inl rfl⟩

/-- what a tick hands to the transport, as one inbox entry -/
def delSeg (t : Tick) : List (Option (List Rx)) :=
  match t.net with
  | .idle => []
  | .data toks => [some toks]
  | .eof => [none]

def flat : List (Option (List Rx)) → List (Option Rx)
  | [] => []
  | none :: r => none :: flat r
  | some t :: r => t.map some ++ flat r

theorem flat_append (a b : List (Option (List Rx))) : flat (a ++ b) = flat a ++ flat b := by
  induction a with
  | nil => rfl
  | cons x xs ih => cases x <;> simp [flat, ih]

/-- the peer's tokens (and end of stream) the provider has not yet looked at, in order -/
def stream (p : P) : List (Option Rx) := p.raw.map some ++ flat p.inbox

theorem arrive_inbox (p : P) (t : Tick) : (arrive p t).inbox = if p.sock then p.inbox ++ delSeg t else p.inbox := by
  cases hs : p.sock <;> cases h : t.net <;> simp [arrive, delSeg, h, hs]

theorem stream_arrive (p : P) (t : Tick) :
    stream (arrive p t) = stream p ++ if p.sock then flat (delSeg t) else [] := by
  unfold stream; rw [arrive_inbox]
  cases hs : p.sock <;> simp [arrive, flat_append]

theorem Polled.input {p q : P} (h : Polled p q) : q.rx :: stream q ⊆ p.rx :: stream p := by
  cases h with
  | closed _ hr | nothing _ _ _ _ hr => rw [hr.footprint]; exact List.Subset.refl _
  | emptySegment _ _ _ hw hi hr => rw [hr.footprint]; simp [stream, hw, hi, flat]
  | connected => exact List.Subset.refl _
  | buffered r _ _ _ hw => simp [stream, hw]
  | segment r _ _ _ _ hw hi => simp [stream, hw, hi, flat]
  | eof rest _ _ hw hi => simp [stream, hw, hi, flat]

theorem iter_alive {p : P} (t : Tick) (hc : p.crashed = false) :
    iter p t = ((dispatch (prePoll p t) t.sendFails).1,
      (if p.sock && !(prePoll p t).sock then [Out.close] else []) ++ (dispatch (prePoll p t) t.sendFails).2) := by
  simp [iter, hc]

theorem iter_crashed {p : P} (t : Tick) (hc : p.crashed = true) : iter p t = (p, []) := by
  simp [iter, hc]

theorem prePoll_nil {p : P} (t : Tick) (h : p.evq = []) : prePoll p t = poll (arrive p t) := by
  simp [prePoll, h]

theorem prePoll_cons {p : P} {e : Ev} {r : List Ev} (t : Tick) (h : p.evq = e :: r) : prePoll p t = arrive p t := by
  simp [prePoll, h]

theorem prePoll_polled {p : P} (t : Tick) (h : p.evq = []) : Polled (arrive p t) (prePoll p t) :=
  prePoll_nil t h ▸ poll_polled _

/-- a pass that finds nothing queued, polls along the path `hp` and dispatches the event raised.  `he` has the form
the `Polled` constructors give (`(arrive p t).evq` is `p.evq` by unfolding), so callers pass `rfl` -/
theorem iter_step {p q : P} {t : Tick} {e : Ev} {a : Act} (hc : p.crashed = false) (hq : p.evq = [])
    (hp : Polled (arrive p t) q) (he : q.evq = p.evq ++ [e]) (ht : table e q.st = some a)
    (hf : (t.sendFails && sends a q) = false) :
    iter p t = (dropGen (act a { q with evq := [] }).1,
      (if p.sock && !q.sock then [Out.close] else []) ++ (act a { q with evq := [] }).2) := by
  rw [iter_alive t hc, prePoll_nil t hq, hp.eq, dispatch_act (he.trans (by rw [hq]; rfl)) ht hf]

theorem iter_idle {p : P} {t : Tick} (hc : p.crashed = false) (hq : p.evq = [])
    (hp : Polled (arrive p t) (arrive p t)) : iter p t = (arrive p t, []) := by
  rw [iter_alive t hc, prePoll_nil t hq, hp.eq, dispatch_nil (show (arrive p t).evq = [] from hq)]
  simp [show (arrive p t).sock = p.sock from rfl]

theorem prePoll_st (p : P) (t : Tick) : (prePoll p t).st = p.st := by
  cases h : p.evq with
  | nil => rw [(prePoll_polled t h).footprint]; rfl
  | cons => rw [prePoll_cons t h]; rfl

theorem prePoll_requestor (p : P) (t : Tick) : (prePoll p t).requestor = p.requestor := by
  cases h : p.evq with
  | nil => rw [(prePoll_polled t h).footprint]; rfl
  | cons => rw [prePoll_cons t h]; rfl

theorem prePoll_input (p : P) (t : Tick) :
    (prePoll p t).rx :: stream (prePoll p t) ⊆ p.rx :: stream p ++ flat (delSeg t) := by
  have : (arrive p t).rx :: stream (arrive p t) ⊆ p.rx :: stream p ++ flat (delSeg t) := by
    rw [stream_arrive]; split <;> simp [arrive]
  cases he : p.evq with
  | nil => exact fun _ h => this ((prePoll_polled t he).input h)
  | cons => rw [prePoll_cons t he]; exact this

theorem dispatch_input (q : P) (sf : Bool) : (dispatch q sf).1.rx :: stream (dispatch q sf).1 ⊆ q.rx :: stream q := by
  fun_cases dispatch q sf with
  | case1 | case2 => exact List.Subset.refl _
  | case3 => rw [dropGen_eq]; exact List.Subset.refl _
  | case4 =>
    rw [dropGen_eq, act_eq]
    -- AE-1 empties the inbox, every other action leaves the unread input alone
    show q.rx :: (q.raw.map some ++ flat (if _ then [] else q.inbox)) ⊆ _
    split
    · simp [stream, flat]
    · exact List.Subset.refl _

theorem iter_keeps {I : P → Prop} {p : P} {t : Tick} (h : I p)
    (step : p.crashed = false → I (dispatch (prePoll p t) t.sendFails).1) : I (iter p t).1 := by
  cases hc : p.crashed with
  | true => rw [iter_crashed t hc]; exact h
  | false => rw [iter_alive t hc]; exact step hc

theorem iter_requestor (p : P) (t : Tick) : (iter p t).1.requestor = p.requestor :=
  iter_keeps (I := fun q => q.requestor = p.requestor) rfl fun _ => by rw [dispatch_footprint]; exact prePoll_requestor p t

theorem run_append (a b : List Tick) : ∀ p, run p (a ++ b) = ((run (run p a).1 b).1, (run p a).2 ++ (run (run p a).1 b).2) := by
  induction a with
  | nil => intro p; simp [run]
  | cons t ts ih => intro p; simp [run, ih, List.append_assoc]

theorem run_induction {I : P → Prop} {T : Tick → Prop} (step : ∀ {p t}, I p → T t → I (iter p t).1)
    {p : P} (h : I p) {ts : List Tick} (hts : ∀ t ∈ ts, T t) : I (run p ts).1 := by
  induction ts generalizing p with
  | nil => exact h
  | cons t ts ih => exact ih (step h (hts t List.mem_cons_self)) fun x hx => hts x (List.mem_cons_of_mem _ hx)

theorem run_crashed (ts : List Tick) {p : P} (h : p.crashed = true) : run p ts = (p, []) := by
  induction ts with
  | nil => rfl
  | cons t ts ih => rw [run, iter_crashed t h, ih]; rfl

/-- a dead loop stays dead, so a run that ends alive started alive; and so did a pass (`ts := [t]`: `(run p [t]).1` is
`(iter p t).1` by unfolding) -/
theorem run_alive {ts : List Tick} {p : P} (h : (run p ts).1.crashed = false) : p.crashed = false := by
  cases hc : p.crashed with
  | false => rfl
  | true => rw [run_crashed ts hc, hc] at h; cases h

end Dicom.Prov
