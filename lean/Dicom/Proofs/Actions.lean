import Dicom.Model.Provider
/-! What the actions of `fsm.py` read and write, with the state a variable. -/
namespace Dicom.Prov
open Dicom.UL

/-- `act` itself, run on a state that holds nothing but the socket and ARTIM flags, the role and whether the pending
P-DATA is one the DIMSE layer rejects: all that protocol state, socket and ARTIM flag after an action depend on
(`act_eq`).  The arguments are finite, so facts about them are evaluations over Table 9-10 (`table_forall`) -/
def ctlStep (a : Act) (req rej sock timer : Bool) : P :=
  (act a { sock := sock, timer := timer, requestor := req, rx := if rej then some .pdataErr else none }).1

/-- what an action reads and what it writes: ARTIM's start is set by exactly the actions that switch ARTIM on, AE-1
opens a new connection, whose inbox is empty, and the effects depend on the socket flag and the pending PDU alone.
After `rw [act_eq]` a projection to a field the action does not write reduces to that field of `p` -/
theorem act_eq (a : Act) (p : P) :
    act a p =
      ({ p with st := (ctlStep a p.requestor (p.rx == some .pdataErr) p.sock p.timer).st,
                sock := (ctlStep a p.requestor (p.rx == some .pdataErr) p.sock p.timer).sock,
                timer := (ctlStep a p.requestor (p.rx == some .pdataErr) p.sock p.timer).timer,
                tstart := if (ctlStep a p.requestor (p.rx == some .pdataErr) p.sock false).timer then p.now
                          else p.tstart,
                inbox := if a = .ae1 then [] else p.inbox },
       (act a { sock := p.sock, rx := p.rx }).2) := by
  cases a
  -- AA-8 branches on the socket flag; DT-2 and AR-6 are AA-8 where the pending P-DATA is rejected
  case aa8 => rcases p with ⟨_, _ | _⟩ <;> rfl
  case dt2 | ar6 =>
    by_cases h : p.rx = some .pdataErr
    · rcases p with ⟨_, _ | _, _, _⟩ <;> cases h <;> rfl
    · simp [act, ctlStep, h]
  all_goals rfl

theorem act_aa8 {p : P} (h : p.sock = true) :
    act .aa8 p = ({ p with timer := true, tstart := p.now, st := .s13 }, [.sendAbort 2, .indAbort 2, .tStart]) :=
  if_pos h

theorem act_net (a : Act) (p : P) (R : List Rx) (I : List (Option (List Rx))) (ha : a ≠ .ae1) :
    act a { p with raw := R, inbox := I } = ({ (act a p).1 with raw := R, inbox := I }, (act a p).2) := by
  rw [act_eq, act_eq a p, if_neg ha, if_neg ha]

/-- can the action write to the transport at all?  With the transport open and the pending P-DATA rejected, every
action that can does -/
def writes (a : Act) : Bool := sends a { sock := true, rx := some .pdataErr }

theorem sends_writes {a : Act} {p : P} (h : sends a p = true) : writes a = true := by
  cases a <;> first | rfl | exact h

end Dicom.Prov
