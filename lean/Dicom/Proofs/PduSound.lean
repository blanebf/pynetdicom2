import Dicom.Proofs.PduSpec
/-! The strict PS3.8 reader accepts only encodings (`parsePdu_sound`): whatever it reads, re-encoded, gives the bytes
back; and where the text it yields is conformant (`Conf`), the value is well-formed (`WF`: every integer in wire
range). -/
namespace Dicom
open Dicom.Spec

/-- what conformance asks of the text a sub-item carries (the integers are in range by construction) -/
def SubItem.Conf : SubItem → Prop
  | .implClass _ uid => uidOk uid
  | .role _ uid _ _ => uidOk uid
  | .implVersion _ n => ascii n
  | .extNeg _ uid _ => uidOk uid
  | .userId _ _ _ p s => utf8 p ∧ utf8 s
  | .userIdAc _ r => utf8 r
  | .generic ty _ _ => ty ≠ 0
  | _ => True

theorem rd16_slice_some {s r v rest : Bytes} {n : Nat} (h1 : rd16 s = some (n, r)) (h2 : slice n r = some (v, rest)) :
    be16 v.length ++ (v ++ rest) = s ∧ v.length < 65536 := by
  obtain ⟨rfl, hn⟩ := rd16_some h1
  obtain ⟨rfl, rfl⟩ := slice_some h2
  exact ⟨rfl, hn⟩

theorem parseSub_sound {t rsv : Nat} {v : Bytes} {x : SubItem} (ht : t < 256) (hr : rsv < 256) (hv : v.length < 65536) :
    parseSub t rsv v = some x → x.ty = t ∧ x.rsv = rsv ∧ x.body = v ∧ x.strict ∧ (x.Conf → x.WF) := by
  -- one case per path through the reader, with the reads that succeeded on it as hypotheses
  fun_cases parseSub t rsv v <;> intro h
  case case10 he _ _ hrd =>      -- 0x56
    obtain ⟨⟨uid, info⟩, hsl, rfl⟩ := Option.map_eq_some_iff.1 h
    obtain ⟨rfl, _⟩ := rd16_slice_some hrd hsl
    exact ⟨he.symm, rfl, rfl, trivial, fun hc => ⟨hr, hc, by simpa +arith only [List.length_append, be16_length] using hv⟩⟩
  all_goals cases h
  case case1 he a b c d =>      -- 0x51
    exact ⟨he.symm, rfl, be32_of_bytes a b c d, rfl, fun _ => ⟨hr, by decide, (rd32_some (s := [a, b, c, d]) rfl).2⟩⟩
  case case3 he | case9 he =>      -- 0x52, 0x55: the value is the text
    exact ⟨he.symm, rfl, rfl, trivial, fun hc => ⟨hr, hc, hv⟩⟩
  case case4 he a b c d =>      -- 0x53
    refine ⟨he.symm, rfl, ?_, rfl, fun _ => ⟨hr, by decide, lt_step b a.toNat_lt, lt_step d c.toNat_lt⟩⟩
    simp only [SubItem.body]; rw [be16_of_bytes, be16_of_bytes]; rfl
  case case6 he _ _ _ scu scp hsl hrd =>      -- 0x54
    obtain ⟨rfl, _⟩ := rd16_slice_some hrd hsl
    exact ⟨he.symm, rfl, by simp only [SubItem.body, u8_of_byte]; rfl, trivial, fun hc => ⟨hr, hc,
      by simpa +arith only [List.length_append, be16_length, List.length_cons, List.length_nil] using hv,
      scu.toNat_lt, scp.toNat_lt⟩⟩
  case case12 he ty pr _ _ _ hrd1 _ _ hsl1 _ _ hrd2 _ hsl2 =>      -- 0x58
    obtain ⟨rfl, _⟩ := rd16_slice_some hrd1 hsl1
    obtain ⟨rfl, _⟩ := rd16_slice_some hrd2 hsl2
    exact ⟨he.symm, rfl, by simp only [SubItem.body, u8_of_byte, List.append_nil]; rfl, trivial,
      fun hc => ⟨hr, ty.toNat_lt, pr.toNat_lt, hc.1, hc.2,
        by simpa +arith only [List.length_append, be16_length, List.length_cons, List.length_nil] using hv⟩⟩
  case case18 he _ _ _ hsl hrd =>      -- 0x59
    obtain ⟨rfl, _⟩ := rd16_slice_some hrd hsl
    exact ⟨he.symm, rfl, by simp only [SubItem.body, List.append_nil], trivial, fun hc => ⟨hr, hc,
      by simpa +arith only [List.length_append, be16_length, List.length_nil] using hv⟩⟩
  case case21 h1 h2 h3 h4 h5 h6 h7 h8 =>      -- any other type
    exact ⟨rfl, rfl, rfl, trivial, fun hc => ⟨ht, hc, not_knownSubType.2 ⟨h1, h2, h3, h4, h5, h6, h7, h8⟩, hr, hv⟩⟩

theorem parseSubs_sound {f : Nat} {s : Bytes} {l : List SubItem} : parseSubs f s = some l →
    encSubs l = s ∧ ∀ x ∈ l, x.strict ∧ (x.Conf → x.WF) := by
  fun_induction parseSubs f s generalizing l <;> intro h
  case case2 => cases h; exact ⟨rfl, fun _ hx => nomatch hx⟩
  case case3 _ _ _ _ htl x hx ih =>
    obtain ⟨l', hl', rfl⟩ := Option.map_eq_some_iff.1 h
    obtain ⟨rfl, ht, hr, hv⟩ := tlv_some htl
    obtain ⟨rfl, rfl, rfl, h4, h5⟩ := parseSub_sound ht hr hv hx
    obtain ⟨rfl, hall⟩ := ih hl'
    exact ⟨by simp only [encSubs, List.map_cons, List.flatten_cons, x.enc_tlv h4, List.append_assoc],
      List.forall_mem_cons.2 ⟨⟨h4, h5⟩, hall⟩⟩
  all_goals cases h

def TsSub.Conf (t : TsSub) : Prop := uidOk t.name

theorem parseTss_sound {f : Nat} {s : Bytes} {l : List TsSub} : parseTss f s = some l →
    encTss l = s ∧ ∀ x ∈ l, (x.Conf → x.WF) := by
  fun_induction parseTss f s generalizing l <;> intro h
  case case2 => cases h; exact ⟨rfl, fun _ hx => nomatch hx⟩
  case case3 _ _ _ htl ih =>
    obtain ⟨l', hl', rfl⟩ := Option.map_eq_some_iff.1 h
    obtain ⟨rfl, _, hr, hv⟩ := tlv_some htl
    obtain ⟨rfl, hall⟩ := ih hl'
    exact ⟨rfl, List.forall_mem_cons.2 ⟨fun hc => ⟨hr, hc, hv⟩, hall⟩⟩
  all_goals cases h

def Item.Conf : Item → Prop
  | .appCtx _ n => ascii n
  | .pcRq _ _ _ _ _ _ abs ts => uidOk abs ∧ ∀ t ∈ ts, t.Conf
  | .pcAc _ _ _ _ _ t => t.Conf
  | .userInfo _ subs => ∀ s ∈ subs, s.Conf

theorem parseItem_sound {rq : Bool} {t rsv : Nat} {v : Bytes} {x : Item} (hr : rsv < 256) (hv : v.length < 65536) :
    parseItem rq t rsv v = some x →
      x.ty = t ∧ x.rsv = rsv ∧ x.body = v ∧ x.strict ∧ x.fits rq ∧ (x.Conf → x.WF) := by
  fun_cases parseItem rq t rsv v <;> intro h
  case case1 he =>      -- 0x10
    cases h; exact ⟨he.symm, rfl, rfl, trivial, trivial, fun hc => ⟨hr, hc, hv⟩⟩
  case case2 he id r2 r3 r4 r ar abs _ htl =>      -- 0x20
    obtain ⟨ts, hts, rfl⟩ := Option.map_eq_some_iff.1 h
    obtain ⟨es, _, har, habs⟩ := tlv_some htl
    obtain ⟨ets, hall⟩ := parseTss_sound hts
    have hb : (Item.pcRq rsv id.toNat r2.toNat r3.toNat r4.toNat ar abs ts).body = id :: r2 :: r3 :: r4 :: r := by
      simp only [Item.body, u8_of_byte, ets, ← es]; rfl
    exact ⟨he.1.symm, rfl, hb, trivial, he.2, fun hc => ⟨hr, id.toNat_lt, r2.toNat_lt, r3.toNat_lt, r4.toNat_lt, har, hc.1,
      habs, fun t ht => hall t ht (hc.2 t ht), by rw [Item.itemLength_eq (.pcRq ..) trivial, hb]; exact hv⟩⟩
  case case5 he id r2 res r3 r tr ts htl =>      -- 0x21
    cases h
    obtain ⟨es, _, htr, hts⟩ := tlv_some htl
    have hb : (Item.pcAc rsv id.toNat r2.toNat res.toNat r3.toNat ⟨tr, ts⟩).body = id :: r2 :: res :: r3 :: r := by
      simp only [Item.body, u8_of_byte, TsSub.enc, ← es, List.append_nil]; rfl
    exact ⟨he.1.symm, rfl, hb, trivial, Bool.eq_false_iff.2 he.2, fun hc => ⟨hr, id.toNat_lt, r2.toNat_lt, res.toNat_lt,
      r3.toNat_lt, ⟨htr, hc, hts⟩, by rw [Item.itemLength_eq (.pcAc ..) trivial, hb]; exact hv⟩⟩
  case case8 he =>      -- 0x50
    obtain ⟨subs, hs, rfl⟩ := Option.map_eq_some_iff.1 h
    obtain ⟨es, hall⟩ := parseSubs_sound hs
    have hstr : ∀ s ∈ subs, s.strict := fun s hs => (hall s hs).1
    exact ⟨he.symm, rfl, es, hstr, trivial, fun hc => ⟨hr, fun s hs => (hall s hs).2 (hc s hs),
      by rw [Item.itemLength_eq (.userInfo ..) hstr]; show (encSubs subs).length < 65536; rw [es]; exact hv⟩⟩
  all_goals cases h

theorem parseItems_sound {rq : Bool} {f : Nat} {s : Bytes} {l : List Item} : parseItems rq f s = some l →
    encItems l = s ∧ ∀ x ∈ l, x.strict ∧ x.fits rq ∧ (x.Conf → x.WF) := by
  fun_induction parseItems rq f s generalizing l <;> intro h
  case case2 => cases h; exact ⟨rfl, fun _ hx => nomatch hx⟩
  case case3 _ _ _ _ htl x hx ih =>
    obtain ⟨l', hl', rfl⟩ := Option.map_eq_some_iff.1 h
    obtain ⟨rfl, _, hr, hv⟩ := tlv_some htl
    obtain ⟨rfl, rfl, rfl, h4, h5⟩ := parseItem_sound hr hv hx
    obtain ⟨rfl, hall⟩ := ih hl'
    exact ⟨by simp only [encItems, List.map_cons, List.flatten_cons, x.enc_tlv h4, List.append_assoc],
      List.forall_mem_cons.2 ⟨⟨h4, h5⟩, hall⟩⟩
  all_goals cases h

theorem parsePdvs_sound {f : Nat} {s : Bytes} {l : List Pdv} : parsePdvs f s = some l → encPdvs l = s ∧ ∀ v ∈ l, v.WF := by
  fun_induction parsePdvs f s generalizing l <;> intro h
  case case2 => cases h; exact ⟨rfl, fun _ hv => by cases hv⟩
  case case4 _ _ hrd _ c _ _ hsl ih =>
    obtain ⟨l', hl', rfl⟩ := Option.map_eq_some_iff.1 h
    obtain ⟨rfl, hil⟩ := rd32_some hrd
    obtain ⟨rfl, rfl⟩ := slice_some hsl
    obtain ⟨rfl, hall⟩ := ih hl'
    exact ⟨by rw [encPdvs_cons, u8_of_byte]; rfl, List.forall_mem_cons.2 ⟨⟨c.toNat_lt, hil⟩, hall⟩⟩
  all_goals cases h

theorem parse32s_sound {n : Nat} {s : Bytes} {l : List Nat} : parse32s n s = some l →
    (l.map be32).flatten = s ∧ l.length = n ∧ ∀ x ∈ l, x < 4294967296 := by
  fun_induction parse32s n s generalizing l <;> intro h
  case case1 => cases h; exact ⟨rfl, rfl, fun _ hx => by cases hx⟩
  case case3 _ _ hrd ih =>
    obtain ⟨l', hl', rfl⟩ := Option.map_eq_some_iff.1 h
    obtain ⟨rfl, hv⟩ := rd32_some hrd
    obtain ⟨rfl, hn, hall⟩ := ih hl'
    exact ⟨rfl, congrArg (· + 1) hn, List.forall_mem_cons.2 ⟨hv, hall⟩⟩
  all_goals cases h

/-- the encoding with the AE title fields written as they are (16 raw bytes) -/
def Assoc.encRaw (ty : Nat) (a : Assoc) : Bytes :=
  u8 ty ++ (u8 a.rsv1 ++ (be32 a.pduLength ++ (be16 a.protoVer ++ (be16 a.rsv2 ++ (a.called ++ (a.calling
    ++ ((a.rsv3.map be32).flatten ++ encItems a.items)))))))

def Pdu.encRaw : Pdu → Bytes
  | .rq a => a.encRaw 1
  | .ac a => a.encRaw 2
  | p => p.enc

/-- conformance of the text in an A-ASSOCIATE PDU as the strict reader returns it: titles ASCII and
padded on the right only, text fields as `SubItem.Conf`/`Item.Conf`, User Information last -/
def Assoc.Conf (a : Assoc) : Prop :=
  ascii a.called ∧ pad16 (strip (· == 0) a.called) = a.called ∧
  ascii a.calling ∧ pad16 (strip (· == 0) a.calling) = a.calling ∧
  (∀ i ∈ a.items, i.Conf) ∧ userInfoLast a.items

def Pdu.Conf : Pdu → Prop
  | .rq a => a.Conf
  | .ac a => a.Conf
  | _ => True

/-- where the title fields are padded on the right only, the raw encoding is the encoding of the value the library reports -/
theorem Pdu.enc_unpadTitles (v : Pdu) (hc : v.Conf) : (unpadTitles v).enc = v.encRaw := by
  cases v with
  | rq a | ac a =>
    simp only [unpadTitles, Pdu.enc, Pdu.encRaw, Assoc.enc_eq, Assoc.encRaw, Assoc.pduLength, hc.2.1, hc.2.2.2.1]
  | _ => rfl

def Assoc.unpad (a : Assoc) : Assoc :=
  { a with called := strip (· == 0) a.called, calling := strip (· == 0) a.calling }

/-- the A-ASSOCIATE branch of `parsePdu`, with the reads that succeeded on it as hypotheses; RQ and AC share it -/
theorem parseAssoc_sound {t r1 : UInt8} {len pv r2 : Nat} {rest body b1 b2 b3 b4 b5 called calling r3 : Bytes}
    {rsv3 : List Nat} {items : List Item} {rq : Bool}
    (h0 : rd32 rest = some (len, body)) (hlen : body.length = len)
    (h1 : rd16 body = some (pv, b1)) (h2 : rd16 b1 = some (r2, b2)) (h3 : slice 16 b2 = some (called, b3))
    (h4 : slice 16 b3 = some (calling, b4)) (h5 : slice 32 b4 = some (r3, b5))
    (h6 : parse32s 8 r3 = some rsv3) (h7 : parseItems rq (b5.length + 1) b5 = some items) :
    let a : Assoc := { rsv1 := r1.toNat, protoVer := pv, rsv2 := r2, called := called, calling := calling,
                       rsv3 := rsv3, items := items }
    a.encRaw t.toNat = t :: r1 :: rest ∧ (∀ i ∈ items, i.strict ∧ i.fits rq) ∧ (a.Conf → a.unpad.WF) := by
  intro a
  obtain ⟨e0, hl32⟩ := rd32_some h0
  obtain ⟨rfl, hpv⟩ := rd16_some h1
  obtain ⟨rfl, hr2⟩ := rd16_some h2
  obtain ⟨rfl, hc1⟩ := slice_some h3
  obtain ⟨rfl, hc2⟩ := slice_some h4
  obtain ⟨rfl, _⟩ := slice_some h5
  obtain ⟨rfl, hn8, hall8⟩ := parse32s_sound h6
  obtain ⟨rfl, hitems⟩ := parseItems_sound h7
  have hpl : a.pduLength = len := (a.pduLength_eq (fun i hi => (hitems i hi).1) hn8 hc1 hc2).trans hlen
  refine ⟨?_, fun i hi => ⟨(hitems i hi).1, (hitems i hi).2.1⟩, fun ⟨ha1, _, ha2, _, hci, hul⟩ =>
    ⟨r1.toNat_lt, hpv, hr2, titleOk_strip _ (Nat.le_of_eq hc1) ha1, titleOk_strip _ (Nat.le_of_eq hc2) ha2, hn8, hall8,
      itemsOk_iff_userInfoLast.2 ⟨fun i hi => (hitems i hi).2.2 (hci i hi), hul⟩, hpl ▸ hl32⟩⟩
  simp only [Assoc.encRaw, hpl, ← e0]; simp only [a, u8_of_byte]; rfl

theorem parsePdu_sound {b : Bytes} {v : Pdu} : parsePdu b = some v →
    v.encRaw = b ∧ v.Shape ∧ (v.Conf → (unpadTitles v).WF) := by
  fun_cases parsePdu b <;> intro h
  case case2 t r1 _ _ _ h0 hlen ht _ _ h1 _ _ h2 _ _ h3 _ _ h4 _ _ h5 _ _ h7 h6 _ =>      -- A-ASSOCIATE-RQ, -AC
    have := parseAssoc_sound (t := t) (r1 := r1) h0 (Decidable.of_not_not hlen) h1 h2 h3 h4 h5 h6 h7
    -- with the type byte a literal, `if t = 1 …`, `decide (t = 1)`, `unpadTitles` and `Assoc.unpad` compute: `this` is the goal
    rcases ht with ht | ht <;> rw [ht] at h this <;> cases h <;> exact this
  case case9 ht _ _ _ _ h0 hlen | case16 ht _ _ _ _ h0 hlen =>      -- A-ASSOCIATE-RJ, A-ABORT: four bytes
    cases h; cases Decidable.of_not_not hlen
    obtain ⟨rfl, _⟩ := rd32_some h0
    exact ⟨by simp only [Pdu.encRaw, Pdu.enc, u8_of_byte, u8_of_toNat_eq ht]; rfl, trivial,
      fun _ => ⟨UInt8.toNat_lt _, UInt8.toNat_lt _, UInt8.toNat_lt _, UInt8.toNat_lt _, UInt8.toNat_lt _⟩⟩
  case case11 _ h0 hlen _ _ ht =>      -- P-DATA-TF
    obtain ⟨pdvs, hp, rfl⟩ := Option.map_eq_some_iff.1 h
    obtain ⟨rfl, hl32⟩ := rd32_some h0
    obtain ⟨ep, hall⟩ := parsePdvs_sound hp
    have hs := encPdvs_length pdvs
    cases Decidable.of_not_not hlen
    exact ⟨by simp only [Pdu.encRaw, Pdu.enc, u8_of_byte, u8_of_toNat_eq ht, ← hs, ep]; rfl, trivial,
      fun _ => ⟨UInt8.toNat_lt _, hall, by rw [← hs, ep]; exact hl32⟩⟩
  case case12 h0 hlen _ _ _ ht _ hr | case14 h0 hlen _ _ _ _ ht _ hr =>      -- A-RELEASE-RQ, -RP: one 32-bit field
    cases h; cases Decidable.of_not_not hlen
    obtain ⟨rfl, _⟩ := rd32_some h0
    obtain ⟨rfl, hr2⟩ := rd32_some hr
    exact ⟨by simp only [Pdu.encRaw, Pdu.enc, u8_of_byte, u8_of_toNat_eq ht]; rfl, trivial,
      fun _ => ⟨UInt8.toNat_lt _, hr2⟩⟩
  all_goals cases h

end Dicom
