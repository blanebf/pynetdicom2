import Dicom.Proofs.PduSub
/-! The lenient decoder reads back what the encoder writes, part two: transfer-syntax sub-items, variable items,
A-ASSOCIATE-RQ and -AC, P-DATA-TF, whole PDUs (`decodePdu_enc`), with `TsSub.WF` … `Pdu.WF`. -/
namespace Dicom

def TsSub.WF (t : TsSub) : Prop := t.rsv < 256 ∧ uidOk t.name ∧ t.name.length < 65536

theorem decTs_enc (t : TsSub) (h : t.WF) (rest : Bytes) : decTs (t.enc ++ rest) = some (t, rest) := by
  simp only [decTs, TsSub.enc, List.append_assoc, rdHdr4_enc 0x40 t.rsv t.name.length (by decide) h.1 h.2.2,
    List.take_left, List.drop_left, decodeUid_uidOk t.name h.2.1, Option.map]

/-- the stream after a list of transfer syntaxes does not start another one -/
def noTsNext (rest : Bytes) : Prop := rest = [] ∨ ∃ b r, rest = b :: r ∧ b.toNat ≠ 0x40

theorem decTss_enc (l : List TsSub) (h : ∀ t ∈ l, t.WF) (rest : Bytes) (hr : noTsNext rest) (f : Nat) (hf : l.length < f) :
    decTss f (encTss l ++ rest) = some (l, rest) := by
  induction l, f, hf using fuel_induction with
  | nil =>
    rcases hr with rfl | ⟨b, r, rfl, hb⟩
    · rfl
    · simp only [encTss, List.map_nil, List.flatten_nil, List.nil_append, decTss, hb, ↓reduceIte]
  | cons t ts f _ ih =>
    obtain ⟨ht, hts⟩ := List.forall_mem_cons.1 h
    have hd := decTs_enc t ht (encTss ts ++ rest)
    show decTss (f + 1) (t.enc ++ encTss ts ++ rest) = _
    simp only [TsSub.enc, u8, List.append_assoc, List.cons_append, List.nil_append] at hd ⊢
    simp only [decTss, u8_toNat, Nat.reduceLT, ↓reduceIte, hd, ih hts, Option.map]

theorem length_le_encTss (l : List TsSub) : l.length ≤ (encTss l).length :=
  length_le_flatten _ (fun _ => ⟨_, _, rfl⟩) l

theorem length_le_encSubs (l : List SubItem) : l.length ≤ (encSubs l).length :=
  length_le_flatten _ (fun s => ⟨_, _, s.enc_eq.trans List.singleton_append⟩) l

def Item.WF : Item → Prop
  | .appCtx rsv n => rsv < 256 ∧ ascii n ∧ n.length < 65536
  | .pcRq r1 id r2 r3 r4 ar abs ts =>
      r1 < 256 ∧ id < 256 ∧ r2 < 256 ∧ r3 < 256 ∧ r4 < 256 ∧ ar < 256 ∧ uidOk abs ∧ abs.length < 65536 ∧
      (∀ t ∈ ts, t.WF) ∧ (Item.pcRq r1 id r2 r3 r4 ar abs ts).itemLength < 65536
  | .pcAc r1 id r2 res r3 t => r1 < 256 ∧ id < 256 ∧ r2 < 256 ∧ res < 256 ∧ r3 < 256 ∧ t.WF ∧
      (Item.pcAc r1 id r2 res r3 t).itemLength < 65536
  | .userInfo rsv subs => rsv < 256 ∧ (∀ s ∈ subs, s.WF) ∧ (Item.userInfo rsv subs).itemLength < 65536

def Item.isUserInfo : Item → Bool
  | .userInfo _ _ => true
  | _ => false

theorem rdHdr8_of_rdHdr4 {s rest : Bytes} {t rsv n a b c d : Nat} (ha : a < 256) (hb : b < 256) (hc : c < 256)
    (hd : d < 256) : rdHdr4 s = some (t, rsv, n, u8 a ++ (u8 b ++ (u8 c ++ (u8 d ++ rest)))) →
    rdHdr8 s = some (t, rsv, n, a, b, c, d, rest) := by
  fun_cases rdHdr4 s with
  | case1 => intro h; cases h; simp only [rdHdr8, u8, List.cons_append, List.nil_append, u8_toNat, ha, hb, hc, hd]
  | case2 => nofun

/-- type code, reserved byte and body of a variable item: `i.enc = u8 i.ty ++ u8 i.rsv ++ be16 i.itemLength ++ i.body` -/
def Item.ty : Item → Nat
  | .appCtx .. => 0x10 | .pcRq .. => 0x20 | .pcAc .. => 0x21 | .userInfo .. => 0x50

def Item.rsv : Item → Nat
  | .appCtx r _ | .pcRq r _ _ _ _ _ _ _ | .pcAc r _ _ _ _ _ | .userInfo r _ => r

def Item.body : Item → Bytes
  | .appCtx _ n => n
  | .pcRq _ id r2 r3 r4 ar abs ts =>
      u8 id ++ (u8 r2 ++ (u8 r3 ++ (u8 r4 ++ (u8 0x30 ++ (u8 ar ++ (be16 abs.length ++ (abs ++ encTss ts)))))))
  | .pcAc _ id r2 res r3 t => u8 id ++ (u8 r2 ++ (u8 res ++ (u8 r3 ++ t.enc)))
  | .userInfo _ subs => encSubs subs

theorem Item.enc_eq (i : Item) : i.enc = u8 i.ty ++ (u8 i.rsv ++ (be16 i.itemLength ++ i.body)) := by
  cases i <;> (simp only [Item.enc, List.append_assoc]; rfl)

theorem Item.hdr_bounds (i : Item) (h : i.WF) : i.ty < 256 ∧ i.rsv < 256 ∧ i.itemLength < 65536 := by
  cases i <;> dsimp only [Item.WF, Item.itemLength] at h <;>
    simp only [Item.ty, Item.rsv, Item.itemLength, h, Nat.reduceLT, and_self]

/-- a presentation context reads transfer syntaxes while it sees their type code; User Information reads sub-items to
the end of the stream or to a zero byte -/
theorem decItem_enc (i : Item) (h : i.WF) (rest : Bytes) (hr : noTsNext rest)
    (hu : i.isUserInfo = true → rest = [] ∨ ∃ r, rest = 0 :: r) (f : Nat) (hf : i.enc.length < f) :
    decItem f (i.enc ++ rest) = some (i, rest) := by
  obtain ⟨b, s', he, hb, hh⟩ := rdHdr4_enc_cons i.body (i.hdr_bounds h) rest
  rw [i.enc_eq] at hf
  rw [i.enc_eq, he]
  -- `hf` becomes `k + (encTss ts).length < f`, `k + (encSubs subs).length < f`: the nested loop has fuel enough
  cases i <;> simp only [Item.ty, Item.rsv, Item.body, List.append_assoc, List.length_append, u8_length, be16_length,
    ← Nat.add_assoc, Nat.reduceAdd] at hb hh hf
  case appCtx rsv n =>
    simp only [decItem, hb, hh, Item.itemLength, ↓reduceIte, List.take_left, List.drop_left, decodeText_ascii n h.2.1, Option.map]
  case pcRq r1 id r2 r3 r4 ar abs ts =>
    obtain ⟨_, hid, hr2, hr3, hr4, har, habs, hal, hts, _⟩ := h
    have hfuel := Nat.lt_of_le_of_lt (Nat.le_trans (length_le_encTss ts) (Nat.le_add_left _ _)) hf
    simp only [decItem, hb, rdHdr8_of_rdHdr4 hid hr2 hr3 hr4 hh, rdHdr4_enc 0x30 ar abs.length (by decide) har hal,
      Nat.reduceEqDiff, ↓reduceIte, List.take_left, List.drop_left, decodeUid_uidOk abs habs, decTss_enc ts hts rest hr f hfuel,
      Option.map]
  case pcAc r1 id r2 res r3 t =>
    obtain ⟨_, hid, hr2, hres, hr3, ht, _⟩ := h
    simp only [decItem, hb, rdHdr8_of_rdHdr4 hid hr2 hres hr3 hh, Nat.reduceEqDiff, ↓reduceIte, decTs_enc t ht rest, Option.map]
  case userInfo rsv subs =>
    have hfuel := Nat.lt_of_le_of_lt (Nat.le_trans (length_le_encSubs subs) (Nat.le_add_left _ _)) hf
    simp only [decItem, hb, hh, decSubs_enc subs h.2.1 rest (hu rfl) f hfuel, Nat.reduceEqDiff, ↓reduceIte, Option.map]

theorem Item.enc_head (i : Item) : ∃ b r, i.enc = b :: r ∧ b ≠ 0 ∧ b.toNat ≠ 0x40 := by
  refine ⟨UInt8.ofNat i.ty, _, i.enc_eq.trans List.singleton_append, ?_⟩
  cases i <;> simp only [Item.ty] <;> decide

theorem length_le_encItems (l : List Item) : l.length ≤ (encItems l).length :=
  length_le_flatten _ (fun i => ⟨_, _, i.enc_eq.trans List.singleton_append⟩) l

/-- item lists the decoder can read back: every item well formed, User Information (if any) last -/
def itemsOk : List Item → Prop
  | [] => True
  | [i] => i.WF
  | i :: j :: r => i.WF ∧ i.isUserInfo = false ∧ itemsOk (j :: r)

theorem itemsOk_cons {i : Item} {l : List Item} :
    itemsOk (i :: l) ↔ i.WF ∧ (i.isUserInfo = true → l = []) ∧ itemsOk l := by
  cases l with
  | nil => simp only [itemsOk, implies_true, and_self, and_true]
  | cons j r => simp only [itemsOk, reduceCtorEq, imp_false, Bool.not_eq_true]

theorem noTsNext_encItems (l : List Item) : noTsNext (encItems l) := by
  cases l with
  | nil => exact Or.inl rfl
  | cons j js =>
    obtain ⟨b, r, he, _, hb⟩ := j.enc_head
    exact Or.inr ⟨b, r ++ encItems js, congrArg (· ++ encItems js) he, hb⟩

/-- `decItems` passes its fuel down to the loops inside an item, so the fuel bounds the encoded length, not the number
of items (and the proof is by recursion on the list, not by `fuel_induction`) -/
theorem decItems_enc : ∀ (l : List Item), itemsOk l → ∀ f, (encItems l).length < f →
    decItems f (encItems l) = some l
  | [], _, _ + 1, _ => rfl
  | i :: is, h, f + 1, hf => by
    obtain ⟨hi, hu, his⟩ := itemsOk_cons.1 h
    obtain ⟨b, r, he, hb, _⟩ := i.enc_head
    have hf' : i.enc.length + (encItems is).length < f + 1 := by
      simpa only [encItems, List.map_cons, List.flatten_cons, List.length_append] using hf
    have hd := decItem_enc i hi (encItems is) (noTsNext_encItems is) (fun h => .inl (by rw [hu h]; rfl)) (f + 1)
      (Nat.lt_of_le_of_lt (Nat.le_add_right _ _) hf')
    have ih := decItems_enc is his f (by rw [he, List.length_cons] at hf'; omega)
    show decItems (f + 1) (i.enc ++ encItems is) = _
    rw [he] at hd ⊢
    simp only [List.cons_append] at hd ⊢
    simp only [decItems, hb, ↓reduceIte, hd, ih, Option.map]

def Assoc.WF (a : Assoc) : Prop :=
  a.rsv1 < 256 ∧ a.protoVer < 65536 ∧ a.rsv2 < 65536 ∧ titleOk a.called ∧ titleOk a.calling ∧
  a.rsv3.length = 8 ∧ (∀ x ∈ a.rsv3, x < 4294967296) ∧ itemsOk a.items ∧ a.pduLength < 4294967296

theorem rd32s_enc (l : List Nat) (h : ∀ x ∈ l, x < 4294967296) (rest : Bytes) {n : Nat} (hn : l.length = n) :
    rd32s n ((l.map be32).flatten ++ rest) = some (l, rest) := by
  subst hn
  induction l with
  | nil => rfl
  | cons x xs ih =>
    obtain ⟨hx, hxs⟩ := List.forall_mem_cons.1 h
    simp only [List.length_cons, List.map_cons, List.flatten_cons, List.append_assoc, rd32s, rd32_be32 x hx, ih hxs,
      Option.map]

theorem flatten_be32_length (l : List Nat) : ((l.map be32).flatten).length = 4 * l.length := by
  rw [length_flatten_map be32 (fun _ => 4) l fun _ _ => rfl, List.map_const', List.sum_replicate_nat, Nat.mul_comm]

theorem Assoc.enc_eq (ty : Nat) (a : Assoc) : a.enc ty = u8 ty ++ (u8 a.rsv1 ++ (be32 a.pduLength ++ (be16 a.protoVer ++
    (be16 a.rsv2 ++ (pad16 a.called ++ (pad16 a.calling ++ ((a.rsv3.map be32).flatten ++ encItems a.items))))))) := by
  simp only [Assoc.enc, List.append_assoc]

theorem decAssoc_enc (ty : Nat) (a : Assoc) (h : a.WF) : decAssoc (a.enc ty) = some a := by
  obtain ⟨hr1, hpv, hr2, hcalled, hcalling, h8, hr3, hitems, hlen⟩ := h
  have hl : ¬ (pad16 a.called ++ (pad16 a.calling ++ ((a.rsv3.map be32).flatten ++ encItems a.items))).length < 64 := by
    simp only [List.length_append, pad16_length, flatten_be32_length, h8]; omega
  have e16 := pad16_length a.called
  have e16' := pad16_length a.calling
  -- one pass from the outside in: the title fields are cut out with `take_left'`/`drop_left'`
  simp only [decAssoc, Assoc.enc_eq, u8, List.cons_append, List.nil_append, rd32_be32 _ hlen,
    rd16_be16 _ hpv, rd16_be16 _ hr2, hl, ↓reduceIte, List.take_left' e16, List.drop_left' e16,
    show (32 : Nat) = 16 + 16 from rfl, ← List.drop_drop, List.take_left' e16', List.drop_left' e16',
    decodeTitle_pad16 _ hcalled, decodeTitle_pad16 _ hcalling, rd32s_enc a.rsv3 hr3 _ h8,
    decItems_enc a.items hitems _ (Nat.lt_succ_self _), Option.map, u8_toNat a.rsv1 hr1]

def Pdv.WF (v : Pdv) : Prop := v.ctx < 256 ∧ v.value.length + 1 < 4294967296

theorem decPdv_enc (v : Pdv) (h : v.WF) (rest : Bytes) : decPdv (v.enc ++ rest) = some (v, rest) := by
  simp only [decPdv, Pdv.enc, List.append_assoc, rd32_be32 _ h.2, rd8_u8 _ h.1, Nat.succ_ne_zero, ↓reduceIte,
    Nat.add_sub_cancel, List.take_left, List.drop_left]

theorem decPdvs_enc (l : List Pdv) (h : ∀ v ∈ l, v.WF) (n f : Nat) (hf : l.length < f) :
    decPdvs f n (n + (l.map Pdv.totalLength).sum) (encPdvs l) = some l := by
  induction l, f, hf using fuel_induction generalizing n with
  | nil => simp only [List.map_nil, List.sum_nil, Nat.add_zero, decPdvs, ↓reduceIte]
  | cons v vs f _ ih =>
    obtain ⟨hv, hvs⟩ := List.forall_mem_cons.1 h
    -- an item is at least five bytes long
    have hne : n ≠ n + (v.totalLength + (vs.map Pdv.totalLength).sum) := by simp only [Pdv.totalLength]; omega
    have ih := ih hvs (n + v.totalLength)
    rw [Nat.add_assoc] at ih
    show decPdvs (f + 1) n (n + (v.totalLength + (vs.map Pdv.totalLength).sum)) (v.enc ++ encPdvs vs) = _
    -- `decPdvs` unfolded by `rw`, not in the `simp` set: there the kernel runs out of stack on the proof term
    rw [decPdvs]
    simp only [hne, ↓reduceIte, decPdv_enc v hv, ih, Option.map]

theorem length_le_encPdvs (l : List Pdv) : l.length ≤ (encPdvs l).length :=
  length_le_flatten _ (fun _ => ⟨_, _, rfl⟩) l

def Pdu.WF : Pdu → Prop
  | .rq a => a.WF
  | .ac a => a.WF
  | .rj r1 r2 res src rsn => r1 < 256 ∧ r2 < 256 ∧ res < 256 ∧ src < 256 ∧ rsn < 256
  | .pdata rsv pdvs => rsv < 256 ∧ (∀ v ∈ pdvs, v.WF) ∧ (pdvs.map Pdv.totalLength).sum < 4294967296
  | .rlrq r1 r2 => r1 < 256 ∧ r2 < 4294967296
  | .rlrp r1 r2 => r1 < 256 ∧ r2 < 4294967296
  | .abort r1 r2 r3 src rsn => r1 < 256 ∧ r2 < 256 ∧ r3 < 256 ∧ src < 256 ∧ rsn < 256

theorem decodePdu_enc (p : Pdu) (h : p.WF) : decodePdu p.enc = some p := by
  cases p with
  | rq a | ac a =>
    -- `decodePdu` looks at the type byte and hands the whole input to `decAssoc`
    have hd := fun ty => decAssoc_enc ty a h
    simp only [Pdu.enc, Assoc.enc_eq, u8, List.singleton_append] at hd ⊢
    simp only [decodePdu, u8_toNat, Nat.reduceLT, Nat.reduceEqDiff, ↓reduceIte, hd, Option.map]
  | rj r1 r2 r3 src rsn | abort r1 r2 r3 src rsn =>
    obtain ⟨h1, h2, h3, h4, h5⟩ := h
    simp only [decodePdu, Pdu.enc, u8, be32, List.cons_append, List.nil_append, u8_toNat, Nat.reduceLT, Nat.reduceEqDiff,
      or_self, ↓reduceIte, h1, h2, h3, h4, h5]
  | pdata rsv pdvs =>
    obtain ⟨h1, h2, h3⟩ := h
    have := decPdvs_enc pdvs h2 0 ((encPdvs pdvs).length + 1) (Nat.lt_succ_of_le (length_le_encPdvs pdvs))
    simp only [Nat.zero_add] at this
    simp only [decodePdu, Pdu.enc, u8, List.cons_append, List.nil_append, u8_toNat, Nat.reduceLT, Nat.reduceEqDiff, ↓reduceIte,
      rd32_be32 _ h3, this, Option.map, h1]
  | rlrq r1 r2 | rlrp r1 r2 =>
    have hr := rd32_be32 r2 h.2 []
    rw [List.append_nil] at hr
    -- only the length field is spelt out: the decoder skips it byte by byte
    simp only [decodePdu, Pdu.enc, u8, show be32 4 = [0, 0, 0, 4] from rfl, List.cons_append, List.nil_append,
      u8_toNat, Nat.reduceLT, Nat.reduceEqDiff, ↓reduceIte, true_or, or_true, hr, h.1]

end Dicom
