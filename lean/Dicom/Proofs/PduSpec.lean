import Dicom.Proofs.PduDecode
import Dicom.Spec.PduGrammar
/-! The strict PS3.8 reader reads what the model encoder writes: `_enc` is a reader applied to an encoding (`tlv_enc`,
`parse*s_enc` for a run of elements, `parseAssoc_enc`, `parsePdu_enc`), `parse*_body` the reader of one element, which
is handed type, reserved byte and body.  The other way round, names end in `_some` at the primitives (`slice_some`,
`tlv_some`) and in `_sound` from `parseSub` up (`PduSound`).  Also here: the lengths the encoder reports (`enc_length`). -/
namespace Dicom
open Dicom.Spec

theorem slice_append {n : Nat} {v : Bytes} (h : v.length = n) (rest : Bytes) : slice n (v ++ rest) = some (v, rest) := by
  rw [slice, if_neg (by rw [List.length_append, h]; exact Nat.not_lt.2 (Nat.le_add_right _ _)), ← h, List.take_left, List.drop_left]

theorem slice_self (v : Bytes) : slice v.length v = some (v, []) := by
  have := slice_append (v := v) rfl []
  rwa [List.append_nil] at this

theorem slice_some {n : Nat} {s v r : Bytes} : slice n s = some (v, r) → v ++ r = s ∧ v.length = n := by
  fun_cases slice n s with
  | case1 => nofun
  | case2 hn => intro h; cases h; exact ⟨List.take_append_drop n s, List.length_take_of_le (Nat.le_of_not_lt hn)⟩

/-- `tlv` reads a frame back; stated in the form in which `simp` meets a frame once `u8` is unfolded -/
theorem tlv_enc (t rsv : Nat) (v : Bytes) (ht : t < 256) (hr : rsv < 256) (hv : v.length < 65536) (rest : Bytes) :
    tlv (UInt8.ofNat t :: UInt8.ofNat rsv :: (be16 v.length ++ (v ++ rest))) = some (t, rsv, v, rest) := by
  simp only [be16, List.cons_append, List.nil_append, tlv, be16_toNat _ hv, slice_append rfl, u8_toNat t ht, u8_toNat rsv hr,
    Option.map]

theorem tlv_some {s v rest : Bytes} {t rsv : Nat} : tlv s = some (t, rsv, v, rest) →
    u8 t ++ (u8 rsv ++ (be16 v.length ++ (v ++ rest))) = s ∧ t < 256 ∧ rsv < 256 ∧ v.length < 65536 := by
  fun_cases tlv s with
  | case2 => nofun
  | case1 t' r' a b rest' =>
    intro h
    obtain ⟨⟨v', rest''⟩, hs, h⟩ := Option.map_eq_some_iff.1 h
    cases h
    obtain ⟨e, hl⟩ := slice_some hs
    refine ⟨?_, UInt8.toNat_lt _, UInt8.toNat_lt _, hl ▸ lt_step b a.toNat_lt⟩
    rw [hl, be16_of_bytes, u8_of_byte, u8_of_byte, ← e]; rfl

/-- the two sub-items that store the item length they were constructed with carry the standard's 4 -/
def SubItem.strict : SubItem → Prop
  | .maxLen _ il _ => il = 4
  | .asyncOps _ il _ _ => il = 4
  | _ => True

theorem SubItem.len_eq (s : SubItem) (hs : s.strict) : s.len = s.body.length := by
  cases s with
  | maxLen | asyncOps => exact hs
  | implClass | implVersion | generic => rfl
  | role | extNeg | userId | userIdAc =>
    simp +arith only [SubItem.len, SubItem.body, List.length_append, be16_length, u8_length]

theorem SubItem.enc_tlv (s : SubItem) (hs : s.strict) :
    s.enc = u8 s.ty ++ (u8 s.rsv ++ (be16 s.body.length ++ s.body)) := by
  rw [s.enc_eq, s.len_eq hs]

theorem SubItem.enc_length (s : SubItem) (hs : s.strict) : s.enc.length = s.totalLength := by
  have : s.totalLength = 4 + s.len := by
    cases s with
    | maxLen _ il _ => exact congrArg (4 + ·) (hs : il = 4).symm      -- the one total that is a constant, 8
    | _ => rfl
  simp +arith only [this, s.enc_eq, s.len_eq hs, List.length_append, u8_length, be16_length]

theorem encSubs_length (l : List SubItem) (h : ∀ s ∈ l, s.strict) :
    (encSubs l).length = (l.map SubItem.totalLength).sum :=
  length_flatten_map _ _ l fun s hs => s.enc_length (h s hs)

theorem TsSub.enc_length (t : TsSub) : t.enc.length = t.totalLength := by
  simp only [TsSub.enc, TsSub.totalLength, List.length_append, be16_length, u8_length]

theorem encTss_length (l : List TsSub) : (encTss l).length = (l.map TsSub.totalLength).sum :=
  length_flatten_map _ _ l fun t _ => t.enc_length

def Item.strict : Item → Prop
  | .userInfo _ subs => ∀ s ∈ subs, s.strict
  | _ => True

/-- the item kind is one PS3.8 allows in this PDU: Presentation Context (RQ) items only in an
A-ASSOCIATE-RQ, Presentation Context (AC) items only in an A-ASSOCIATE-AC -/
def Item.fits (rq : Bool) : Item → Prop
  | .pcRq .. => rq = true
  | .pcAc .. => rq = false
  | _ => True

/-- items of the kind PS3.8 allows in this PDU, length-carrying sub-items carrying the standard's 4 -/
def Pdu.Shape : Pdu → Prop
  | .rq a => ∀ i ∈ a.items, i.strict ∧ i.fits true
  | .ac a => ∀ i ∈ a.items, i.strict ∧ i.fits false
  | _ => True

theorem Item.itemLength_eq (i : Item) (hs : i.strict) : i.itemLength = i.body.length := by
  cases i with
  | appCtx rsv n => rfl
  | pcRq r1 id r2 r3 r4 ar abs ts =>
    simp +arith only [Item.itemLength, Item.body, List.length_append, u8_length, be16_length, encTss_length]
  | pcAc r1 id r2 res r3 t =>
    simp +arith only [Item.itemLength, Item.body, List.length_append, u8_length, TsSub.enc_length]
  | userInfo rsv subs => exact (encSubs_length subs hs).symm

theorem Item.enc_tlv (i : Item) (hs : i.strict) :
    i.enc = u8 i.ty ++ (u8 i.rsv ++ (be16 i.body.length ++ i.body)) := by
  rw [i.enc_eq, i.itemLength_eq hs]

theorem Item.enc_length (i : Item) (hs : i.strict) : i.enc.length = i.totalLength := by
  simp +arith only [i.enc_eq, Item.totalLength, i.itemLength_eq hs, List.length_append, u8_length, be16_length]

theorem encItems_length (l : List Item) (h : ∀ i ∈ l, i.strict) :
    (encItems l).length = (l.map Item.totalLength).sum :=
  length_flatten_map _ _ l fun i hi => i.enc_length (h i hi)

theorem Pdv.enc_length (v : Pdv) : v.enc.length = v.totalLength := by
  simp +arith only [Pdv.enc, Pdv.totalLength, List.length_append, be32_length, u8_length]

theorem encPdvs_length (l : List Pdv) : (encPdvs l).length = (l.map Pdv.totalLength).sum :=
  length_flatten_map _ _ l fun v _ => v.enc_length

theorem Assoc.pduLength_eq (a : Assoc) (hs : ∀ i ∈ a.items, i.strict) (h8 : a.rsv3.length = 8) {c c' : Bytes}
    (hc : c.length = 16) (hc' : c'.length = 16) : a.pduLength =
      (be16 a.protoVer ++ (be16 a.rsv2 ++ (c ++ (c' ++ ((a.rsv3.map be32).flatten ++ encItems a.items))))).length := by
  simp +arith only [Assoc.pduLength, List.length_append, be16_length, hc, hc', flatten_be32_length, h8, encItems_length a.items hs]

theorem Assoc.enc_length (ty : Nat) (a : Assoc) (hs : ∀ i ∈ a.items, i.strict) (h8 : a.rsv3.length = 8) :
    (a.enc ty).length = 6 + a.pduLength := by
  rw [a.enc_eq, a.pduLength_eq hs h8 (pad16_length a.called) (pad16_length a.calling)]
  simp +arith only [List.length_append, u8_length, be32_length]

/-- of `WF`, only `rsv3.length = 8` is used -/
theorem Pdu.enc_length (p : Pdu) (hw : p.WF) (hs : p.Shape) : p.enc.length = p.totalLength := by
  cases p with
  | rq a | ac a => exact Assoc.enc_length _ a (fun i hi => (hs i hi).1) hw.2.2.2.2.2.1
  | _ => simp only [Pdu.enc, Pdu.totalLength, List.length_append, u8_length, be32_length, encPdvs_length]

theorem parseSub_body (s : SubItem) (h : s.WF) (hs : s.strict) : parseSub s.ty s.rsv s.body = some s := by
  cases s <;> dsimp only [SubItem.ty, SubItem.rsv, SubItem.body] <;> unfold parseSub
  case generic => simp only [not_knownSubType.1 h.2.2.1, ↓reduceIte]
  all_goals simp only [Nat.reduceEqDiff, ↓reduceIte]
  case maxLen rsv il ml => cases hs; simp only [be32, be32_toNat ml h.2.2]
  case asyncOps rsv il i p =>
    cases hs; simp only [be16, List.cons_append, List.nil_append, be16_toNat i h.2.2.1, be16_toNat p h.2.2.2]
  case role rsv uid scu scp =>
    obtain ⟨_, _, h3, h4, h5⟩ := h
    simp only [rd16_be16 uid.length (Nat.lt_of_add_right_lt h3), slice_append rfl, u8, List.cons_append, List.nil_append,
      u8_toNat, h4, h5]
  case extNeg rsv uid info =>
    simp only [rd16_be16 uid.length (Nat.lt_of_add_left_lt (Nat.lt_of_add_right_lt h.2.2)), slice_append rfl, Option.map]
  case userId rsv ty pr p s =>
    obtain ⟨_, h2, h3, _, _, h6⟩ := h
    simp only [u8, List.cons_append, List.nil_append, rd16_be16 p.length (Nat.lt_of_add_left_lt (Nat.lt_of_add_right_lt h6)),
      slice_append rfl, rd16_be16 s.length (Nat.lt_of_add_left_lt h6), slice_self, u8_toNat, h2, h3]
  case userIdAc rsv r => simp only [rd16_be16 r.length (Nat.lt_of_add_left_lt h.2.2), slice_self]

theorem parseSubs_enc (l : List SubItem) (h : ∀ s ∈ l, s.WF ∧ s.strict) (f : Nat) (hf : l.length < f) :
    parseSubs f (encSubs l) = some l := by
  induction l, f, hf using fuel_induction with
  | nil => rfl
  | cons x xs f _ ih =>
    obtain ⟨⟨hw, hs⟩, hl⟩ := List.forall_mem_cons.1 h
    obtain ⟨ht, hr, hb⟩ := x.hdr_bounds hw
    show parseSubs (f + 1) (x.enc ++ encSubs xs) = _
    simp only [x.enc_tlv hs, u8, List.cons_append, List.nil_append, List.append_assoc, parseSubs,
      tlv_enc x.ty x.rsv x.body ht hr (x.len_eq hs ▸ hb), parseSub_body x hw hs, ih hl, Option.map]

theorem parseTss_enc (l : List TsSub) (h : ∀ t ∈ l, t.WF) (f : Nat) (hf : l.length < f) :
    parseTss f (encTss l) = some l := by
  induction l, f, hf using fuel_induction with
  | nil => rfl
  | cons x xs f _ ih =>
    obtain ⟨⟨hr, _, hn⟩, hl⟩ := List.forall_mem_cons.1 h
    show parseTss (f + 1) (x.enc ++ encTss xs) = _
    simp only [TsSub.enc, u8, List.cons_append, List.nil_append, List.append_assoc, parseTss,
      tlv_enc 0x40 x.rsv x.name (by decide) hr hn, ↓reduceIte, ih hl, Option.map]

theorem parseItem_body (rq : Bool) (i : Item) (h : i.WF) (hs : i.strict) (hf : i.fits rq) :
    parseItem rq i.ty i.rsv i.body = some i := by
  cases i <;> dsimp only [Item.ty, Item.rsv, Item.body] <;> unfold parseItem
  case appCtx => rfl
  case pcRq r1 id r2 r3 r4 ar abs ts =>
    obtain ⟨_, hid, hr2, hr3, hr4, har, _, hal, hts, _⟩ := h
    cases hf
    simp only [u8, List.cons_append, List.nil_append, Nat.reduceEqDiff, ↓reduceIte, and_true, tlv_enc 0x30 ar abs (by decide) har hal,
      parseTss_enc ts hts _ (Nat.lt_succ_of_le (length_le_encTss ts)), Option.map, u8_toNat, hid, hr2, hr3, hr4]
  case pcAc r1 id r2 res r3 t =>
    obtain ⟨_, hid, hr2, hres, hr3, ⟨htr, _, htl⟩, _⟩ := h
    cases hf
    have ht := tlv_enc 0x40 t.rsv t.name (by decide) htr htl []
    rw [List.append_nil] at ht
    simp only [TsSub.enc, u8, List.cons_append, List.nil_append, Nat.reduceEqDiff, ↓reduceIte, Bool.false_eq_true, and_false,
      not_false_eq_true, and_true, ht, u8_toNat, hid, hr2, hres, hr3]
  case userInfo rsv subs =>
    simp only [Nat.reduceEqDiff, ↓reduceIte, false_and,
      parseSubs_enc subs (fun s hx => ⟨h.2.1 s hx, hs s hx⟩) _ (Nat.lt_succ_of_le (length_le_encSubs subs)), Option.map]

theorem parseItems_enc (rq : Bool) (l : List Item) (h : ∀ i ∈ l, i.WF ∧ i.strict ∧ i.fits rq) (f : Nat)
    (hf : l.length < f) : parseItems rq f (encItems l) = some l := by
  induction l, f, hf using fuel_induction with
  | nil => rfl
  | cons x xs f _ ih =>
    obtain ⟨⟨hw, hs, hk⟩, hl⟩ := List.forall_mem_cons.1 h
    obtain ⟨ht, hr, hb⟩ := x.hdr_bounds hw
    show parseItems rq (f + 1) (x.enc ++ encItems xs) = _
    simp only [x.enc_tlv hs, u8, List.cons_append, List.nil_append, List.append_assoc, parseItems,
      tlv_enc x.ty x.rsv x.body ht hr (x.itemLength_eq hs ▸ hb), parseItem_body rq x hw hs hk, ih hl, Option.map]

theorem encPdvs_cons (v : Pdv) (vs : List Pdv) :
    encPdvs (v :: vs) = be32 (v.value.length + 1) ++ ((u8 v.ctx ++ v.value) ++ encPdvs vs) := by
  simp only [encPdvs, List.map_cons, List.flatten_cons, Pdv.enc, List.append_assoc]

theorem parsePdvs_enc (l : List Pdv) (h : ∀ v ∈ l, v.WF) (f : Nat) (hf : l.length < f) : parsePdvs f (encPdvs l) = some l := by
  induction l, f, hf using fuel_induction with
  | nil => rfl
  | cons v vs f _ ih =>
    obtain ⟨⟨h1, h2⟩, hvs⟩ := List.forall_mem_cons.1 h
    have hs := slice_append (v := UInt8.ofNat v.ctx :: v.value) rfl (encPdvs vs)
    rw [List.length_cons, List.cons_append] at hs
    rw [encPdvs_cons, parsePdvs, rd32_be32 _ h2]
    · simp only [Nat.succ_ne_zero, ↓reduceIte, u8, List.cons_append, List.nil_append, hs, ih hvs, Option.map,
        u8_toNat v.ctx h1]
    · exact List.cons_ne_nil _ _

theorem parse32s_enc (l : List Nat) (h : ∀ x ∈ l, x < 4294967296) {n : Nat} (hn : l.length = n) :
    parse32s n ((l.map be32).flatten) = some l := by
  subst hn
  induction l with
  | nil => rfl
  | cons x xs ih =>
    obtain ⟨hx, hxs⟩ := List.forall_mem_cons.1 h
    simp only [List.length_cons, List.map_cons, List.flatten_cons, parse32s, rd32_be32 x hx, ih hxs, Option.map]

/-- User Information, where present, is the last variable item (PS3.8 Table 9-11/9-17) -/
def userInfoLast : List Item → Prop
  | [] => True
  | [_] => True
  | i :: j :: r => i.isUserInfo = false ∧ userInfoLast (j :: r)

theorem itemsOk_iff_userInfoLast : ∀ {l : List Item}, itemsOk l ↔ (∀ i ∈ l, i.WF) ∧ userInfoLast l
  | [] => by simp only [itemsOk, userInfoLast, List.not_mem_nil, false_imp_iff, implies_true, and_self]
  | [i] => by simp only [itemsOk, userInfoLast, List.mem_singleton, forall_eq, and_true]
  | i :: j :: r => by
    simp only [itemsOk, userInfoLast, itemsOk_iff_userInfoLast (l := j :: r), List.forall_mem_cons (a := i), and_assoc,
      and_left_comm]

theorem parseAssoc_enc (ty : Nat) (a : Assoc) (hty : ty = 1 ∨ ty = 2) (h : a.WF)
    (hk : ∀ i ∈ a.items, i.strict ∧ i.fits (decide (ty = 1))) :
    (parsePdu (a.enc ty)).map unpadTitles = some (if ty = 1 then .rq a else .ac a) := by
  obtain ⟨hr1, hpv, hr2, ⟨hcl, _, hct⟩, ⟨hgl, _, hgt⟩, h8, hr3, hitems, hlen⟩ := h
  have h32 : ((a.rsv3.map be32).flatten).length = 32 := by rw [flatten_be32_length, h8]
  have hb := a.pduLength_eq (fun i hi => (hk i hi).1) h8 (pad16_length a.called) (pad16_length a.calling)
  -- one pass from the outside in; `← hb` writes the length field as the length of what follows it, which the reader checks
  simp only [parsePdu, Assoc.enc_eq, u8, List.cons_append, List.nil_append, rd32_be32 _ hlen, ← hb, ne_eq,
    not_true_eq_false, ↓reduceIte, u8_toNat ty (by rcases hty with rfl | rfl <;> decide), hty, rd16_be16 _ hpv, rd16_be16 _ hr2,
    slice_append (pad16_length _), slice_append h32, parse32s_enc a.rsv3 hr3 h8,
    parseItems_enc _ a.items (fun i hi => ⟨(itemsOk_iff_userInfoLast.1 hitems).1 i hi, hk i hi⟩) _
      (Nat.lt_succ_of_le (length_le_encItems _)), u8_toNat a.rsv1 hr1]
  -- the reader returns the titles as the 16 bytes of the field
  rcases hty with rfl | rfl <;>
    simp only [↓reduceIte, Nat.reduceEqDiff, Option.map, unpadTitles, strip_pad16 _ hcl hct, strip_pad16 _ hgl hgt]

theorem parsePdu_enc (p : Pdu) (hw : p.WF) (hs : p.Shape) : (parsePdu p.enc).map unpadTitles = some p := by
  cases p with
  | rq a => exact parseAssoc_enc 1 a (.inl rfl) hw hs
  | ac a => exact parseAssoc_enc 2 a (.inr rfl) hw hs
  | rj r1 r2 r3 src rsn | abort r1 r2 r3 src rsn =>
    obtain ⟨h1, h2, h3, h4, h5⟩ := hw
    simp only [parsePdu, Pdu.enc, u8, List.cons_append, List.nil_append, List.append_assoc, rd32_be32 4 (by decide),
      List.length_cons, List.length_nil, ne_eq, not_true_eq_false, u8_toNat, Nat.reduceLT, Nat.reduceEqDiff, Nat.reduceAdd,
      or_self, ↓reduceIte, h1, h2, h3, h4, h5, Option.map, unpadTitles]
  | pdata rsv pdvs =>
    obtain ⟨h1, h2, h3⟩ := hw
    have hfu : pdvs.length < (pdvs.map Pdv.totalLength).sum + 1 :=
      Nat.lt_succ_of_le (encPdvs_length pdvs ▸ length_le_encPdvs pdvs)
    simp only [parsePdu, Pdu.enc, u8, List.cons_append, List.nil_append, rd32_be32 _ h3, encPdvs_length, ne_eq,
      not_true_eq_false, u8_toNat, Nat.reduceLT, Nat.reduceEqDiff, or_self, ↓reduceIte, parsePdvs_enc pdvs h2 _ hfu, h1,
      Option.map, unpadTitles]
  | rlrq r1 r2 | rlrp r1 r2 =>
    have hr := rd32_be32 r2 hw.2 []
    rw [List.append_nil] at hr
    simp only [parsePdu, Pdu.enc, u8, List.cons_append, List.nil_append, rd32_be32 4 (by decide), be32_length, ne_eq,
      not_true_eq_false, u8_toNat, Nat.reduceLT, Nat.reduceEqDiff, or_self, ↓reduceIte, hr, hw.1, Option.map, unpadTitles]

end Dicom
