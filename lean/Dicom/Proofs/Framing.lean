import Dicom.Model.Framing
/-! The receive buffer: `frame1` characterised; `frames` is the one split of a stream into complete PDUs (`Framed`) and a
residue (`frames_spec`, `frames_flatten`); hence draining commutes with appending. -/
namespace Dicom

theorem len32_append (a b : Bytes) (h : 6 ≤ a.length) : len32 (a ++ b) = len32 a := by
  -- `len32` reads the first six bytes; `h` rules out the shorter lists (a `match a, h with` does the same at twice the cost)
  rcases a with _ | ⟨_, _ | ⟨_, _ | ⟨_, _ | ⟨_, _ | ⟨_, _ | ⟨_, _⟩⟩⟩⟩⟩⟩
  all_goals first | rfl | simp at h

theorem len32_be32 (t r : UInt8) (n : Nat) (h : n < 4294967296) (rest : Bytes) :
    len32 (t :: r :: (be32 n ++ rest)) = n :=
  be32_toNat n h

/-- `p` is one complete PDU: the six header bytes and exactly as many more as its length field says -/
def Framed (p : Bytes) : Prop := 6 ≤ p.length ∧ p.length = len32 p + 6

theorem frame1_eq_some {a p r : Bytes} : frame1 a = some (p, r) ↔ a = p ++ r ∧ Framed p := by
  constructor
  · fun_cases frame1 a with
    | case1 | case2 => intro h; cases h
    | case3 _ hl =>
      rintro ⟨⟩
      have hp : (a.take (len32 a + 6)).length = len32 a + 6 := List.length_take_of_le (Nat.le_of_not_lt hl)
      have h6 : 6 ≤ (a.take (len32 a + 6)).length := hp.symm ▸ Nat.le_add_left 6 _
      -- the piece taken holds the six header bytes, so its length field is that of `a`
      have hlen := len32_append (a.take (len32 a + 6)) (a.drop (len32 a + 6)) h6
      rw [List.take_append_drop] at hlen
      exact ⟨(List.take_append_drop _ _).symm, h6, hlen ▸ hp⟩
  · rintro ⟨rfl, h6, hl⟩
    have h6' : ¬ (p ++ r).length < 6 := Nat.not_lt.mpr (List.length_append ▸ Nat.le_add_right_of_le h6)
    have hpr : ¬ (p ++ r).length < p.length := Nat.not_lt.mpr (List.length_append ▸ Nat.le_add_right _ _)
    rw [frame1, if_neg h6', len32_append p r h6, ← hl, if_neg hpr, List.take_left, List.drop_left]

theorem frames_of_none {a : Bytes} (h : frame1 a = none) : frames a = ([], a) := by
  fun_cases frames a with
  | case1 => rfl
  | case2 p r h' => rw [h] at h'; cases h'

theorem frames_nil : frames [] = ([], []) := frames_of_none rfl

theorem frames_of_some {a p r : Bytes} (h : frame1 a = some (p, r)) :
    frames a = (p :: (frames r).1, (frames r).2) := by
  fun_cases frames a with
  | case1 h' => rw [h] at h'; cases h'
  | case2 p' r' h' => cases h.symm.trans h'; rfl

theorem frames_spec (s : Bytes) :
    (frames s).1.flatten ++ (frames s).2 = s ∧ (∀ p ∈ (frames s).1, Framed p) ∧ frame1 (frames s).2 = none := by
  fun_induction frames s with
  | case1 s h => simp [h]
  | case2 s p r h ih =>
    obtain ⟨rfl, hp⟩ := frame1_eq_some.mp h
    exact ⟨by simp [ih.1], List.forall_mem_cons.mpr ⟨hp, ih.2.1⟩, ih.2.2⟩

/-- complete PDUs in front of any `r` come off whole: the split `frames_spec` describes is the only one -/
theorem frames_flatten (ps : List Bytes) (h : ∀ p ∈ ps, Framed p) (r : Bytes) :
    frames (ps.flatten ++ r) = (ps ++ (frames r).1, (frames r).2) := by
  induction ps with
  | nil => rfl
  | cons p ps ih =>
    obtain ⟨hp, hps⟩ := List.forall_mem_cons.mp h
    rw [List.flatten_cons, List.append_assoc, frames_of_some (frame1_eq_some.mpr ⟨rfl, hp⟩), ih hps]
    rfl

theorem frames_append (a b : Bytes) :
    frames (a ++ b) = ((frames a).1 ++ (frames ((frames a).2 ++ b)).1, (frames ((frames a).2 ++ b)).2) := by
  obtain ⟨h, hwf, _⟩ := frames_spec a
  rw [← frames_flatten _ hwf, ← List.append_assoc, h]

theorem frames_idem (a : Bytes) : frames (frames a).2 = ([], (frames a).2) := frames_of_none (frames_spec a).2.2

/-- `C03.segmentation_independent` from any state of the receive buffer -/
theorem segmentation_independent_gen (segs : List Bytes) (out : List Bytes) (buf : Bytes) (h : frames buf = ([], buf)) :
    segs.foldl feed (out, buf) = (out ++ (frames (buf ++ segs.flatten)).1, (frames (buf ++ segs.flatten)).2) := by
  induction segs generalizing out buf with
  | nil => simp [h]
  | cons s ss ih =>
    rw [List.foldl_cons, feed, ih _ _ (frames_idem (buf ++ s)), List.flatten_cons, ← List.append_assoc buf s,
      frames_append (buf ++ s), List.append_assoc]

end Dicom
