import Dicom.Proofs.Invariant
/-! Where the effects of a pass come from, and why nothing the peer does can kill the loop. -/
namespace Dicom.Prov
open Dicom.UL

/-- every effect action `a` can have, whatever the state: its effects with the transport open, on a P-DATA that
completes a message and on one the DIMSE layer rejects -/
def outsOf (a : Act) : List Out :=
  (act a { sock := true, rx := some .pdataDone }).2 ++ (act a { sock := true, rx := some .pdataErr }).2

theorem act_outs {a : Act} {q : P} {o : Out} (h : o ∈ (act a q).2) : o ∈ outsOf a := by
  have aa8 : o ∈ (aa8Body q).2 → o ∈ (aa8Body { sock := true }).2 := by
    cases hs : q.sock <;> simp [aa8Body, hs]
  cases a
  case aa8 => exact List.mem_append_left _ (aa8 h)
  case dt2 | ar6 =>
    -- on a rejected P-DATA the effects are AA-8's, the second half of `outsOf`; otherwise they are among the first
    simp only [act] at h; split at h
    · exact List.mem_append_right _ (aa8 h)
    · split at h
      · exact List.mem_append_left _ h
      · cases h
  all_goals exact List.mem_append_left _ h

theorem iter_outs {p : P} {t : Tick} {o : Out} (ho : o ∈ (iter p t).2) :
    o = .close ∨ ((iter p t).1.crashed = true ∧ (o = .indAbort 0 ∨ o = .crash)) ∨
    ∃ e a, table e p.st = some a ∧ o ∈ outsOf a := by
  cases hc : p.crashed with
  | true => simp [iter_crashed t hc] at ho
  | false =>
    rw [iter_alive t hc] at ho ⊢
    rcases List.mem_append.mp ho with ho | ho
    · split at ho
      · exact .inl (List.mem_singleton.mp ho)
      · cases ho
    · revert ho
      fun_cases dispatch (prePoll p t) t.sendFails with
      | case1 => exact fun ho => nomatch ho
      | case2 => exact fun ho => .inr (.inl ⟨rfl, by simpa using ho⟩)
      | case3 => exact fun ho => .inl (by simpa using ho)
      | case4 e _ _ a ht => exact fun ho => .inr (.inr ⟨e, a, prePoll_st p t ▸ ht, act_outs ho⟩)

/-- an indication or confirmation to the local user -/
def isInd : Out → Bool
  | .ind _ | .indAbort _ | .indDimse => true
  | _ => false

/-- where effects can occur: P-DATA is sent only in Sta6/Sta8, a DIMSE message indicated only in Sta6/Sta7, and in
Sta13 nothing is indicated to the user -/
theorem cells_outs : ∀ {e s a}, table e s = some a →
    (Out.send .pdata ∈ outsOf a → s = .s6 ∨ s = .s8) ∧ (Out.indDimse ∈ outsOf a → s = .s6 ∨ s = .s7) ∧
    (s = .s13 → ∀ o ∈ outsOf a, isInd o = false) :=
  by apply table_forall; decide +kernel

/-- the loop is alive and nothing of the local user is pending -/
def NoUser (p : P) : Prop := p.crashed = false ∧ p.fromUser = [] ∧ p.gen = 0

theorem NoUser.alive {p : P} (h : NoUser p) : p.crashed = false := h.1
theorem NoUser.fromUser {p : P} (h : NoUser p) : p.fromUser = [] := h.2.1
theorem NoUser.gen {p : P} (h : NoUser p) : p.gen = 0 := h.2.2

def PeerOnly (σ : List Tick) : Prop := ∀ t ∈ σ, t.enq = []

theorem table_rx (r : Rx) {s : St} (h1 : s ≠ .s1) (h4 : s ≠ .s4) : (table (evOfRx r) s).isSome = true :=
  table_pdu h1 h4 _ (by cases r <;> decide)

theorem Polled.peer {p q : P} (hp : Polled p q) (h : Quiet p) (hn : NoUser p) :
    NoUser q ∧ ∀ e ∈ q.evq, (table e q.st).isSome = true := by
  have open_ne := h.sock_iff.mp
  -- nothing was queued: what holds of the event raised holds of every queued event
  have raised : ∀ {e' : Ev} {φ : Ev → Prop}, φ e' → ∀ e ∈ p.evq ++ [e'], φ e := fun h' e he => by
    rw [h.evq] at he; exact List.mem_singleton.mp he ▸ h'
  cases hp with
  | closed _ hr | nothing _ _ _ _ hr | emptySegment _ _ _ _ _ hr =>
    -- with nothing of the user's pending only ARTIM can raise an event
    cases hr with
    | idle => exact ⟨hn, fun e he => by rw [show _ = [] from h.evq] at he; cases he⟩
    | artim _ _ ht => exact ⟨hn, raised (table_e18 (h.timerOk.mp ht) ▸ rfl)⟩
    | frag hg => rw [show _ = 0 from hn.gen] at hg; cases hg
    | msg _ _ _ hu | user _ _ _ hu => rw [show _ = [] from hn.fromUser] at hu; cases hu
  | connected _ h4 => exact ⟨hn, raised (h4 ▸ rfl)⟩
  | buffered r _ hso h4 | segment r _ _ hso h4 => exact ⟨hn, raised (table_rx r (open_ne hso) h4)⟩
  | eof _ hso => exact ⟨hn, raised (table_e17_defined (open_ne hso))⟩

theorem prePoll_peer {p : P} {t : Tick} (h : PInv p) (hn : NoUser p) (ht : t.enq = []) :
    NoUser (prePoll p t) ∧ ∀ e ∈ (prePoll p t).evq, (table e (prePoll p t).st).isSome = true := by
  have hna : NoUser (arrive p t) := ⟨hn.alive, by simp [arrive, hn.fromUser, ht], hn.gen⟩
  rcases h.cases hn.alive with hq | he | he
  · exact (prePoll_polled t hq.evq).peer hq hna
  all_goals
    rw [prePoll_cons t he.evq]; refine ⟨hna, ?_⟩
    show ∀ e ∈ p.evq, (table e p.st).isSome = true
    simp only [he.evq, List.mem_singleton, forall_eq]
  · rw [he.e5.2]; rfl
  · exact table_e17_defined he.e17.2

theorem dispatch_peer {q : P} {sf : Bool} (hn : NoUser q) (hd : ∀ e ∈ q.evq, (table e q.st).isSome = true) :
    NoUser (dispatch q sf).1 := by
  fun_cases dispatch q sf with
  | case1 => exact hn
  | case2 e r hq ht => have := hd e (hq ▸ List.mem_cons_self); rw [ht] at this; cases this
  | case3 => rw [dropGen_eq]; exact ⟨hn.alive, hn.fromUser, by simp [hn.gen]⟩
  | case4 => rw [dropGen_eq, act_eq]; exact ⟨hn.alive, hn.fromUser, by simp [hn.gen]⟩

theorem iter_peer {p : P} {t : Tick} (h : PInv p) (hn : NoUser p) (ht : t.enq = []) : NoUser (iter p t).1 :=
  iter_keeps hn fun _ => (prePoll_peer h hn ht).elim dispatch_peer

theorem run_peer {p : P} (hi : PInv p) (hn : NoUser p) {ts : List Tick} (hts : PeerOnly ts) : NoUser (run p ts).1 :=
  (run_induction (I := fun p => PInv p ∧ NoUser p) (fun h ht => ⟨iter_inv h.1, iter_peer h.1 h.2 ht⟩)
    ⟨hi, hn⟩ hts).2

end Dicom.Prov
