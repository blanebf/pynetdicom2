import Dicom.Model.Dimse
/-! Fragmentation (`chunks`, `fragsOf`) for an arbitrary fragment size `n > 0` (the library's size is one instance), and
the DIMSE decoder (`Dec.flat`, `Dec.pdu`, `Dec.run`), whose theorems hold of a message cut in any way (`Cutting`,
`Dec.flat_msg`) and grouped into PDUs in any way (`Dec.run_of_flat`); `fragsOf` yields one such cutting. -/
namespace Dicom

theorem chunks_content (n : Nat) (hn : 0 < n) (s : Bytes) :
    ((chunks n s).map (·.1)).flatten = s := by
  fun_induction chunks n s with
  | case1 s h => simp [h.resolve_left (Nat.ne_of_gt hn)]
  | case2 s h ih => simp [ih]

theorem chunks_bound (n : Nat) (s : Bytes) : ∀ c ∈ chunks n s, c.1 ≠ [] ∧ c.1.length ≤ n := by
  fun_induction chunks n s with
  | case1 => simp
  | case2 s h ih =>
    have ⟨hz, hs⟩ := not_or.mp h
    exact List.forall_mem_cons.mpr ⟨⟨by simp [hz, hs], List.length_take_le n s⟩, ih⟩

theorem chunks_eq_nil {n : Nat} {s : Bytes} : chunks n s = [] ↔ n = 0 ∨ s = [] := by
  fun_cases chunks n s with
  | case1 h => exact iff_of_true rfl h
  | case2 h => exact iff_of_false (List.cons_ne_nil _ _) h

/-- exactly the last chunk has has_next = false -/
theorem chunks_flags (n : Nat) (s : Bytes) :
    ∀ (pre : List (Bytes × Bool)) (c : Bytes × Bool) (post : List (Bytes × Bool)),
      chunks n s = pre ++ c :: post → (c.2 = false ↔ post = []) := by
  fun_induction chunks n s with
  | case1 => intro pre c post h; simp at h
  | case2 s h ih =>
    intro pre c post heq
    cases pre with
    | cons p pre => exact ih pre c post (List.cons.inj heq).2
    | nil =>
      obtain ⟨rfl, h2⟩ := List.cons.inj heq
      rw [← h2, chunks_eq_nil, List.drop_eq_nil_iff]
      simp only [decide_eq_false_iff_not, Nat.not_lt]
      exact ⟨.inr, fun h' => h'.resolve_left fun e => h (.inl e)⟩

theorem chunks_shape (n : Nat) (hn : 0 < n) (s : Bytes) (hs : s ≠ []) :
    ∃ (init : List Bytes) (l : Bytes),
      chunks n s = init.map (·, true) ++ [(l, false)] ∧ init.flatten ++ l = s := by
  fun_induction chunks n s with
  | case1 s h => exact absurd h (not_or.mpr ⟨Nat.ne_of_gt hn, hs⟩)
  | case2 s h ih =>
    by_cases hle : s.length ≤ n
    · rw [List.drop_eq_nil_iff.mpr hle, chunks_eq_nil.mpr (.inr rfl), List.take_of_length_le hle,
        decide_eq_false (Nat.not_lt.mpr hle)]
      exact ⟨[], s, rfl, rfl⟩
    · obtain ⟨init, l, h1, h2⟩ := ih (mt List.drop_eq_nil_iff.mp hle)
      rw [h1, decide_eq_true (Nat.lt_of_not_le hle)]
      exact ⟨s.take n :: init, l, rfl, by rw [List.flatten_cons, List.append_assoc, h2, List.take_append_drop]⟩

theorem chunksFile_eq (n : Nat) (s : Bytes) : chunksFile n s = chunks n s := by
  fun_induction chunks n s with
  | case1 s h => rw [chunksFile, dif_pos h]
  | case2 s h ih =>
    -- the one-byte look-ahead finds something exactly when more than `n` bytes are there
    have peek : (!((s.drop n).take 1).isEmpty) = decide (n < s.length) := by
      by_cases hle : s.length ≤ n
      · rw [List.drop_eq_nil_iff.mpr hle, decide_eq_false (Nat.not_lt.mpr hle)]; rfl
      · rw [decide_eq_true (Nat.lt_of_not_le hle)]
        cases hd : s.drop n with
        | nil => exact absurd (List.drop_eq_nil_iff.mp hd) hle
        | cons => rfl
    rw [chunksFile, dif_neg h, ih, peek]

/-- `fs` is the part `s` (command set or data set) cut into fragments in some way: pieces marked `nrm`, then one marked
`lst`.  `C06.fragN_shape` says it of both parts of a message. -/
def Cutting (pc nrm lst : Nat) (s : Bytes) (fs : List Frag) : Prop :=
  ∃ (init : List Bytes) (l : Bytes), fs = init.map (fun b => ⟨pc, nrm, b⟩) ++ [⟨pc, lst, l⟩] ∧ init.flatten ++ l = s

theorem fragsOf_cutting (pc nrm lst n : Nat) (hn : 0 < n) (s : Bytes) (hs : s ≠ []) :
    Cutting pc nrm lst s (fragsOf pc nrm lst n s) := by
  obtain ⟨init, l, h1, h2⟩ := chunks_shape n hn s hs
  exact ⟨init, l, by simp [fragsOf, h1, Function.comp_def], h2⟩

theorem fragsOf_bound (pc nrm lst n : Nat) (s : Bytes) :
    ∀ v ∈ fragsOf pc nrm lst n s, v.body ≠ [] ∧ v.body.length ≤ n ∧ v.pc = pc ∧ (v.mch = nrm ∨ v.mch = lst) := by
  intro v hv
  obtain ⟨c, hc, rfl⟩ := List.mem_map.mp hv
  have := chunks_bound n s c hc
  exact ⟨this.1, this.2, rfl, by cases c.2 <;> simp⟩

theorem fragsOf_eq_nil {pc nrm lst n : Nat} {s : Bytes} : fragsOf pc nrm lst n s = [] ↔ n = 0 ∨ s = [] := by
  rw [fragsOf, List.map_eq_nil_iff, chunks_eq_nil]

theorem fragsOf_content (pc nrm lst n : Nat) (hn : 0 < n) (s : Bytes) :
    ((fragsOf pc nrm lst n s).map (·.body)).flatten = s := by
  simpa [fragsOf, Function.comp_def] using chunks_content n hn s

theorem fragsOf_filter (q : Nat → Bool) (keep : Bool) (nrm lst : Nat) (h1 : q nrm = keep) (h2 : q lst = keep)
    {pc n : Nat} {s : Bytes} :
    (fragsOf pc nrm lst n s).filter (fun f => q f.mch) = if keep then fragsOf pc nrm lst n s else [] := by
  have : ∀ f ∈ fragsOf pc nrm lst n s, q f.mch = keep := fun f hf => by
    rcases (fragsOf_bound pc nrm lst n s f hf).2.2.2 with h | h <;> simp [h, h1, h2]
  cases keep
  · exact List.filter_eq_nil_iff.mpr fun f hf => by simp [this f hf]
  · exact List.filter_eq_self.mpr this

/-- an absent data set and an empty one give the same stream -/
theorem encodeMsgN_eq (pc n : Nat) (cmd : Bytes) (data : Option Bytes) :
    encodeMsgN pc n cmd data = fragsOf pc 1 3 n cmd ++ fragsOf pc 0 2 n (data.getD []) := by
  cases data with
  | none => rw [encodeMsgN, Option.getD_none, fragsOf_eq_nil.mpr (.inr rfl)]
  | some d => rfl

theorem encodeMsgN_bound (pc n : Nat) (cmd : Bytes) (data : Option Bytes) :
    ∀ f ∈ encodeMsgN pc n cmd data, f.body ≠ [] ∧ f.body.length ≤ n ∧ f.pc = pc ∧ f.mch ≤ 3 := by
  intro f hf
  rw [encodeMsgN_eq, List.mem_append] at hf
  rcases hf with hf | hf <;> have := fragsOf_bound _ _ _ _ _ f hf <;> exact ⟨this.1, this.2.1, this.2.2.1, by omega⟩

/-- **fragmentation is invisible to the decoder**: a part cut into pieces in any way (of any sizes, empty ones
included) decodes like its last fragment carrying the whole part -/
theorem Dec.flat_part (noDs) {pc nrm lst : Nat} {s : Bytes} {fs : List Frag} (hp : Cutting pc nrm lst s fs)
    (h : nrm = 1 ∧ lst = 3 ∨ nrm = 0 ∧ lst = 2) (rest : List Frag) (d : Dec) :
    Dec.flat noDs d (fs ++ rest) = Dec.flat noDs d (⟨pc, lst, s⟩ :: rest) := by
  obtain ⟨init, l, rfl, rfl⟩ := hp
  rw [List.append_assoc, List.singleton_append]
  induction init generalizing d with
  | nil => rfl
  | cons b bs ih =>
    -- a fragment that is not the last of its part only appends its bytes, so the last one sees `b ++ (bs.flatten ++ l)`
    rcases h with ⟨rfl, rfl⟩ | ⟨rfl, rfl⟩ <;> simp [Dec.flat, Dec.pdv, ih, List.append_assoc]

theorem Dec.flat_msg (noDs : Bytes → Bool) {pc : Nat} {cmd : Bytes} {data : Option Bytes} {fc fd : List Frag}
    (hc : Cutting pc 1 3 cmd fc) (hfd : match data with | none => fd = [] | some d => Cutting pc 0 2 d fd)
    (hd : noDs cmd = data.isNone) :
    Dec.flat noDs {} (fc ++ fd) =
      some ({ receiving := false, cmdDone := true, dataDone := data.isSome, cmd := cmd, data := data.getD [], pc := pc }, []) := by
  rw [Dec.flat_part noDs hc (.inl ⟨rfl, rfl⟩)]
  -- after the whole command set the decoder stops if it announces no data set (`noDs`), and goes on receiving if not
  cases data with
  | none => subst hfd; simp [Dec.flat, Dec.pdv, hd]
  | some dd =>
    have := Dec.flat_part noDs hfd (.inr ⟨rfl, rfl⟩) []
    rw [List.append_nil] at this
    simp [Dec.flat, Dec.pdv, hd, this]

theorem Dec.flat_encodeMsgN (noDs : Bytes → Bool) {pc n : Nat} {cmd : Bytes} {data : Option Bytes} {fs : List Frag}
    (hfs : fs = encodeMsgN pc n cmd data) (hn : 0 < n) (hc : cmd ≠ []) (hdne : ∀ d, data = some d → d ≠ [])
    (hd : noDs cmd = data.isNone) :
    Dec.flat noDs {} fs =
      some ({ receiving := false, cmdDone := true, dataDone := data.isSome, cmd := cmd, data := data.getD [], pc := pc }, []) := by
  subst hfs
  refine Dec.flat_msg noDs (fragsOf_cutting pc 1 3 n hn cmd hc) ?_ hd
  cases data with
  | none => rfl
  | some d => exact fragsOf_cutting pc 0 2 n hn d (hdne d rfl)

theorem Dec.pdv_receiving {noDs} {d d' : Dec} {v : Frag} {br : Bool} (h : d.pdv noDs v = some (d', br)) :
    d'.receiving = (d.receiving && !br) := by
  revert h
  fun_cases Dec.pdv noDs d v <;> intro h <;> cases h <;> simp

theorem Dec.flat_of_append {noDs} {xs ys r : List Frag} {d d' : Dec} (hr : d.receiving = true)
    (h : Dec.flat noDs d (xs ++ ys) = some (d', r)) :
    ∃ d1 r1, Dec.flat noDs d xs = some (d1, r1) ∧
      (d1.receiving = true ∧ Dec.flat noDs d1 ys = some (d', r) ∨ d1.receiving = false ∧ d1 = d' ∧ r1 ++ ys = r) := by
  fun_induction Dec.flat noDs d xs with
  | case1 d => exact ⟨d, [], rfl, .inl ⟨hr, h⟩⟩
  | case2 d v vs hp => simp [Dec.flat, hp] at h
  | case3 d v vs d1 hp =>
    simp only [List.cons_append, Dec.flat, hp, Option.some.injEq, Prod.mk.injEq] at h
    exact ⟨d1, vs, rfl, .inr ⟨by simp [Dec.pdv_receiving hp], h.1, h.2⟩⟩
  | case4 d v vs d1 hp ih =>
    simp only [List.cons_append, Dec.flat, hp] at h
    exact ih (by simp [Dec.pdv_receiving hp, hr]) h

/-- one PDU is the flat run with the leftover forgotten: the PDVs that follow a completing one in the same PDU are dropped
(the `break` in `DIMSEDecoder.process`), so `Dec.run_of_flat` asks that nothing is left over -/
theorem Dec.pdu_eq_flat (noDs) (d : Dec) (p : List Frag) : Dec.pdu noDs d p = (Dec.flat noDs d p).map (·.1) := by
  fun_induction Dec.flat noDs d p with
  | case1 d => rfl
  | case2 d v vs hp => simp [Dec.pdu, hp]
  | case3 d v vs d1 hp => simp [Dec.pdu, hp]
  | case4 d v vs d1 hp ih => simpa [Dec.pdu, hp] using ih

theorem flatten_eq_nil {α} {g : List (List α)} (hne : ∀ p ∈ g, p ≠ []) (h : g.flatten = []) : g = [] :=
  List.eq_nil_iff_forall_not_mem.mpr fun p hp => hne p hp (List.flatten_eq_nil_iff.mp h p hp)

/-- **grouping is invisible to the decoder**: if the fragment stream is consumed to its end (the decoder still receives
there, or has stopped with nothing left over), so is any grouping of it into non-empty PDUs, with the same result -/
theorem Dec.run_of_flat (noDs) (d : Dec) (g : List (List Frag)) {d' : Dec} {r : List Frag} (hr : d.receiving = true)
    (hne : ∀ p ∈ g, p ≠ []) (hf : Dec.flat noDs d g.flatten = some (d', r)) (hd : d'.receiving = true ∨ r = []) :
    Dec.run noDs d g = some (d', g.length) := by
  induction g generalizing d with
  | nil => cases hf; rfl
  | cons p ps ih =>
    obtain ⟨_, hne'⟩ := List.forall_mem_cons.mp hne
    rw [Dec.run, Dec.pdu_eq_flat]
    obtain ⟨d1, r1, hp, ⟨h1, hf'⟩ | ⟨h1, rfl, rfl⟩⟩ := Dec.flat_of_append hr (List.flatten_cons ▸ hf)
    · simp only [hp, Option.map_some, h1, ↓reduceIte]
      rw [ih d1 h1 hne' hf']
      rfl
    · -- the run stops in `p`, and nothing is left over: `p` is the last PDU
      have := List.append_eq_nil_iff.mp (hd.resolve_left (by simp [h1]))
      simp [hp, h1, flatten_eq_nil hne' this.2]

/-- a proper prefix of such a grouping leaves the decoder receiving: the message completes in the last PDU, not earlier -/
theorem Dec.run_prefix (noDs) (d : Dec) (g₁ g₂ : List (List Frag)) {df : Dec} (hr : d.receiving = true)
    (hne : ∀ p ∈ g₁ ++ g₂, p ≠ []) (h2 : g₂ ≠ []) (hf : Dec.flat noDs d (g₁ ++ g₂).flatten = some (df, [])) :
    ∃ d1, Dec.run noDs d g₁ = some (d1, g₁.length) ∧ d1.receiving = true := by
  obtain ⟨hne₁, hne₂⟩ := List.forall_mem_append.mp hne
  obtain ⟨d1, r1, h1, ⟨hr1, _⟩ | ⟨_, _, hnil⟩⟩ := Dec.flat_of_append hr (List.flatten_append ▸ hf)
  · exact ⟨d1, Dec.run_of_flat noDs d g₁ hr hne₁ h1 (.inl hr1), hr1⟩
  · exact absurd (flatten_eq_nil hne₂ (List.append_eq_nil_iff.mp hnil).2) h2

/-- `C07.reassembly_exact` for any fragment size -/
theorem reassemblyN (noDs : Bytes → Bool) (pc n : Nat) (cmd : Bytes) (data : Option Bytes)
    (g : List (List Frag)) (hg : g.flatten = encodeMsgN pc n cmd data) (hne : ∀ p ∈ g, p ≠ [])
    (hn : 0 < n) (hc : cmd ≠ []) (hdne : ∀ d, data = some d → d ≠ [])
    (hd : noDs cmd = data.isNone) :
    ∃ df, Dec.run noDs {} g = some (df, g.length) ∧ df.receiving = false ∧
      df.cmd = cmd ∧ df.data = data.getD [] ∧ df.pc = pc :=
  ⟨_, Dec.run_of_flat noDs {} g rfl hne (Dec.flat_encodeMsgN noDs hg hn hc hdne hd) (.inr rfl), rfl, rfl, rfl, rfl⟩

/-- `C07.not_earlier` for any fragment size -/
theorem not_earlierN (noDs : Bytes → Bool) (pc n : Nat) (cmd : Bytes) (data : Option Bytes)
    (g₁ g₂ : List (List Frag)) (hg : (g₁ ++ g₂).flatten = encodeMsgN pc n cmd data)
    (hne : ∀ p ∈ g₁ ++ g₂, p ≠ []) (h2 : g₂ ≠ [])
    (hn : 0 < n) (hc : cmd ≠ []) (hdne : ∀ d, data = some d → d ≠ [])
    (hd : noDs cmd = data.isNone) :
    ∀ d k, Dec.run noDs {} g₁ = some (d, k) → d.receiving = true := by
  intro d k h
  obtain ⟨d1, h1, hr⟩ := Dec.run_prefix noDs {} g₁ g₂ rfl hne h2 (Dec.flat_encodeMsgN noDs hg hn hc hdne hd)
  rw [h1] at h; cases h; exact hr

-- non-vacuity: three PDVs grouped [2, 1]
example : ∃ df, Dec.run (fun _ => false) {} [[⟨3, 1, [1, 2]⟩, ⟨3, 3, [3]⟩], [⟨3, 2, [9]⟩]] = some (df, 2)
    ∧ df.cmd = [1, 2, 3] ∧ df.data = [9] := ⟨_, rfl, rfl, rfl⟩

/-- usable maximum lengths: 0 (no limit) or at least 7 (room for one payload byte) -/
def usableMax (maxLen : Nat) : Prop := maxLen = 0 ∨ 7 ≤ maxLen

/-- the library default leaves room for a payload byte (checked against the value regenerated from the code) -/
theorem default_ge_7 : 7 ≤ Dicom.Generated.defaultMaxPdu := by decide

theorem fragSize_pos {maxLen : Nat} (h : usableMax maxLen) : 0 < effMax maxLen - 6 := by
  apply Nat.sub_pos_of_lt
  by_cases h0 : maxLen = 0
  · rw [effMax, if_pos h0]; exact default_ge_7
  · rw [effMax, if_neg h0]; exact h.resolve_left h0

end Dicom
