import Dicom.Spec.Table910
/-! Facts about Table 9-10 alone.  The table is finite, so each is an evaluation, over its 19 × 13 cells or over the 13
states of a row.  No proof should put `table` in a simp set: generating the equations of its 247-way match costs more
than any of these. -/
namespace Dicom.UL

theorem mem_allStates (s : St) : s ∈ allStates := by cases s <;> decide
theorem mem_allEvents (e : Ev) : e ∈ allEvents := by cases e <;> decide

/-- instances close `h` by `decide +kernel` (plain `decide` evaluates the 247 cells twice, in the elaborator and in the
kernel); where the statement has this lemma's shape, `apply table_forall; decide +kernel` finds `φ` -/
theorem table_forall {φ : Ev → St → Act → Prop} [∀ e s a, Decidable (φ e s a)]
    (h : ∀ e ∈ allEvents, ∀ s ∈ allStates, ∀ a ∈ table e s, φ e s a) : ∀ {e s a}, table e s = some a → φ e s a :=
  fun {e s a} ht => h e (mem_allEvents e) s (mem_allStates s) a ht

theorem states_forall {φ : St → Prop} [DecidablePred φ] (h : ∀ s ∈ allStates, φ s) : ∀ s, φ s :=
  fun s => h s (mem_allStates s)

/-! The rows of the three events that end an association from outside (the transport closing, ARTIM expiring, an
unrecognised or invalid PDU), and the events a received PDU raises. -/

theorem table_e17 {s : St} (h1 : s ≠ .s1) :
    s = .s2 ∧ table .e17 s = some .aa5 ∨ s = .s13 ∧ table .e17 s = some .ar5 ∨
    s ≠ .s2 ∧ s ≠ .s13 ∧ table .e17 s = some .aa4 :=
  by revert s; apply states_forall; decide +kernel

theorem table_e17_defined {s : St} (h1 : s ≠ .s1) : (table .e17 s).isSome = true := by
  rcases table_e17 h1 with ⟨_, h⟩ | ⟨_, h⟩ | ⟨_, _, h⟩ <;> rw [h] <;> rfl

theorem table_e18 {s : St} (h : s = .s2 ∨ s = .s13) : table .e18 s = some .aa2 := by
  rcases h with rfl | rfl <;> rfl

theorem table_e19 {s : St} (h1 : s ≠ .s1) (h4 : s ≠ .s4) :
    s = .s2 ∧ table .e19 s = some .aa1 ∨ s = .s13 ∧ table .e19 s = some .aa7 ∨
    s ≠ .s2 ∧ s ≠ .s13 ∧ table .e19 s = some .aa8 :=
  by revert s; apply states_forall; decide +kernel

theorem table_pdu {s : St} (h1 : s ≠ .s1) (h4 : s ≠ .s4) :
    ∀ e ∈ [Ev.e3, .e4, .e6, .e10, .e12, .e13, .e16, .e19], (table e s).isSome = true :=
  by revert s; apply states_forall; decide +kernel

end Dicom.UL
