import Dicom.Model.Services
/-! What the loops of `Model/Services` compute: one characterisation per loop, from which C16, C17 and C19 read
off their statements. -/
namespace Dicom.Svc

theorem findScu_pending_final (l : List Rsp) (h : ∀ r ∈ l, isFindPending r.status = true) (r : Rsp)
    (hr : isFindPending r.status = false) (rest : List Rsp) :
    findScu (l ++ r :: rest) = l.map (fun r => (r.ds, r.status)) ++ [(r.ds, r.status)] := by
  induction l with
  | nil => rw [List.nil_append, findScu, hr]; rfl
  | cons x xs ih =>
    obtain ⟨hx, hxs⟩ := List.forall_mem_cons.mp h
    rw [List.cons_append, findScu, if_pos hx, ih hxs]; rfl

/-- the part of its input the C-GET user acts on: everything before the final C-GET response -/
def active (l : List GetIn) : List GetIn := l.takeWhile fun | .getRsp s => isGetPending s | .store .. => true

theorem active_getRsp (s : Nat) (l : List GetIn) :
    active (.getRsp s :: l) = if isGetPending s then .getRsp s :: active l else [] :=
  List.takeWhile_cons ..

theorem active_of_pending {l : List GetIn} (hp : ∀ s, GetIn.getRsp s ∈ l → isGetPending s = true) : active l = l := by
  induction l with
  | nil => rfl
  | cons x xs ih =>
    have := ih fun s hs => hp s (.tail _ hs)
    cases x with
    | getRsp s => rw [active_getRsp, if_pos (hp s (.head _)), this]
    | store rq ctx o => exact congrArg _ this

theorem getScu_eq (l : List GetIn) :
    getScu l =
      ((active l).filterMap fun
        | .store rq ctx o => some { kind := 0x8001, ctx := ctx, msgIdRsp := rq.msgId, sopClass := rq.sopClass,
                                    sopInstance := rq.sopInstance, status := statusOf CANNOT_UNDERSTAND o }
        | .getRsp _ => none,
       (active l).filterMap fun | .store rq _ (.status _) => some rq | _ => none) := by
  fun_induction getScu l with
  | case1 => rfl
  | case2 s rest hs ih => rw [active_getRsp, if_pos hs]; exact ih
  | case3 s rest hs => rw [active_getRsp, if_neg hs]; rfl
  | case4 rq ctx o rest ih => rw [ih]; cases o <;> rfl

theorem moveLoop_rsp {rq : Rq} {ctx nop : Nat} {os : List SubOutcome} {c : Counters} {r : Rsp}
    (hr : r ∈ moveLoop rq ctx nop os c) :
    ∃ x, r = { kind := 0x8021, ctx := ctx, msgIdRsp := rq.msgId, sopClass := rq.sopClass, status := MOVE_PENDING,
               counters := some x } := by
  fun_induction moveLoop rq ctx nop os c with
  | case1 => cases hr
  | case2 o os c ih =>
    rcases List.mem_cons.mp hr with rfl | hr
    · exact ⟨_, rfl⟩
    · exact ih hr

theorem moveLoop_progress (rq : Rq) (ctx nop : Nat) (os : List SubOutcome) (c : Counters) :
    (moveLoop rq ctx nop os c).map (fun r => r.counters.map fun x => (x.completed, x.remaining)) =
      (List.range os.length).map fun k => some (c.completed + k + 1, nop - (c.completed + k + 1)) := by
  fun_induction moveLoop rq ctx nop os c with
  | case1 => rfl
  | case2 o os c ih =>
    rw [List.map_cons, ih, List.length_cons, List.range_succ_eq_map, List.map_cons, List.map_map]
    -- the head is entry 0; entry `k` of the tail, which starts from `c.completed + 1`, is entry `k + 1`
    exact congrArg _ (List.map_congr_left fun k _ => by rw [Function.comp_apply, Nat.add_right_comm _ 1 k]; rfl)

theorem finalCounters_completed (os : List SubOutcome) (c : Counters) :
    (finalCounters os c).completed = c.completed + os.length := by
  fun_induction finalCounters os c with
  | case1 => rfl
  | case2 o os c ih => rw [ih]; exact Nat.add_right_comm _ 1 _

end Dicom.Svc
