import Dicom.Proofs.Peer
import Dicom.Proofs.Framing
/-! The provider loop as a function of the peer's token stream: how the transport groups the PDUs into
segments, and when it delivers them, changes neither what the provider does nor where it ends. -/
namespace Dicom.Prov
open Dicom.UL

/-- nothing of the local user pending, ARTIM not about to expire, not waiting for the transport connection to
open: the part of `Calm` that is asked of the state *before* a dispatch, when the event is still queued -/
def CalmB (p : P) : Prop :=
  p.fromUser = [] ∧ p.gen = 0 ∧ (p.timer = true → p.now - p.tstart ≤ artim) ∧ (p.sock = true → p.st ≠ .s4)

def Calm (p : P) : Prop := CalmB p ∧ p.evq = []

theorem Calm.evq {p : P} (h : Calm p) : p.evq = [] := h.2
theorem Calm.noUser {p : P} (h : Calm p) (hc : p.crashed = false) : NoUser p := by
  obtain ⟨⟨hu, hg, _, _⟩, _⟩ := h
  exact ⟨hc, hu, hg⟩

/-- a tick in which only the network acts -/
def NetOnly (t : Tick) : Prop := t.enq = [] ∧ t.dt = 0 ∧ t.sendFails = false

def withNet (p : P) (r : List Rx) (i : List (Option (List Rx))) : P := { p with raw := r, inbox := i }

/-- the state without its unread input -/
def core (p : P) : P := withNet p [] []

/-- processing one PDU -/
def tokStep (p : P) (r : Rx) : P × List Out := dispatch { p with rx := some r, evq := [evOfRx r] } false

/-- processing the end of the stream: the reader closes the socket and raises Evt17 -/
def eofStep (p : P) : P × List Out :=
  ((dispatch { p with evq := [.e17], sock := false, inbox := [] } false).1,
   Out.close :: (dispatch { p with evq := [.e17], sock := false, inbox := [] } false).2)

/-- nothing more will be read: the transport is closed, or the loop is dead -/
def halted (p : P) : Bool := !p.sock || p.crashed

theorem halted_false {p : P} : halted p = false ↔ p.sock = true ∧ p.crashed = false := by simp [halted]

/-- the provider as a function of the token stream: one item at a time, until nothing more will be read -/
def consume : P → List (Option Rx) → P × List Out
  | p, [] => (p, [])
  | p, x :: xs =>
    if halted p then (p, []) else
    match x with
    | some r => ((consume (tokStep p r).1 xs).1, (tokStep p r).2 ++ (consume (tokStep p r).1 xs).2)
    | none => ((consume (eofStep p).1 xs).1, (eofStep p).2 ++ (consume (eofStep p).1 xs).2)

theorem consume_halted (p : P) (h : halted p = true) (s : List (Option Rx)) : consume p s = (p, []) := by
  cases s <;> simp [consume, h]

theorem consume_some {p : P} (h : halted p = false) (r : Rx) (s : List (Option Rx)) :
    consume p (some r :: s) = ((consume (tokStep p r).1 s).1, (tokStep p r).2 ++ (consume (tokStep p r).1 s).2) := by
  simp [consume, h]

theorem consume_append (s s' : List (Option Rx)) (p : P) :
    consume p (s ++ s') = ((consume (consume p s).1 s').1, (consume p s).2 ++ (consume (consume p s).1 s').2) := by
  fun_induction consume p s with
  | case1 => simp
  | case2 p x xs hh => simp [consume_halted p hh]
  | case3 p xs hh r ih | case4 p xs hh ih => simp [consume, hh, ih, List.append_assoc]

theorem consume_append_rest {p p' : P} {s s' : List (Option Rx)} {o : List Out}
    (h : consume p s = ((consume p' s').1, o ++ (consume p' s').2)) (rest : List (Option Rx)) :
    consume p (s ++ rest) = ((consume p' (s' ++ rest)).1, o ++ (consume p' (s' ++ rest)).2) := by
  rw [consume_append, h, consume_append s']; simp

theorem core_withNet (x : P) (R : List Rx) (I : List (Option (List Rx))) : core (withNet x R I) = core x := rfl

theorem stream_withNet (x : P) (R : List Rx) (I : List (Option (List Rx))) : stream (withNet x R I) = R.map some ++ flat I := rfl

/-- Evt1 alone opens the transport connection: no other event runs AE-1, leads to Sta4, or opens a closed socket -/
theorem cells_calm : ∀ {e s a}, table e s = some a → e ≠ .e1 → a ≠ .ae1 ∧ ∀ req rej sock timer : Bool,
    (ctlStep a req rej sock timer).st ≠ .s4 ∧ (sock = false → (ctlStep a req rej sock timer).sock = false) :=
  by apply table_forall; decide +kernel

/-- dispatching any event but Evt1 commutes with replacing the unread input (`act_net`, `cells_calm`) -/
theorem dispatch_withNet {p : P} {e : Ev} (he : p.evq = [e]) (h1 : e ≠ .e1) (R : List Rx) (I : List (Option (List Rx))) :
    dispatch (withNet p R I) false = (withNet (dispatch p false).1 R I, (dispatch p false).2) := by
  cases ht : table e p.st with
  | none => rw [dispatch_undefined (q := withNet p R I) he ht, dispatch_undefined he ht]; rfl
  | some a =>
    rw [dispatch_act (q := withNet p R I) he ht rfl, dispatch_act he ht rfl,
      show act a { withNet p R I with evq := [] } = _ from act_net a { p with evq := [] } R I (cells_calm ht h1).1,
      dropGen_eq, dropGen_eq]; rfl

/-- stated, though it is `h` by unfolding: given `h` at the goal `Calm (withNet (tokStep p r).1 R I)` the unifier unfolds
`tokStep` down into `dispatch` before it succeeds -/
theorem calm_withNet {x : P} (h : Calm x) (R : List Rx) (I : List (Option (List Rx))) : Calm (withNet x R I) := h

theorem dispatch_calm {p : P} {e : Ev} (hb : CalmB p) (he : p.evq = [e]) (h1 : e ≠ .e1) :
    Calm (dispatch p false).1 := by
  cases ht : table e p.st with
  | none => rw [dispatch_undefined he ht]; exact ⟨hb, rfl⟩
  | some a =>
    obtain ⟨hu, hg, hf, _⟩ := hb
    rw [dispatch_act he ht rfl, dropGen_eq, act_eq]
    refine ⟨⟨hu, by simp [hg], fun h => ?_,
      fun _ => ((cells_calm ht h1).2 p.requestor (p.rx == some .pdataErr) p.sock p.timer).1⟩, rfl⟩
    -- ARTIM runs after the action: either the action started it, now, or it was running and its start is unchanged
    replace h : (ctlStep a p.requestor (p.rx == some .pdataErr) p.sock p.timer).timer = true := h
    show p.now - (if _ then p.now else p.tstart) ≤ artim
    split
    next => rw [Nat.sub_self]; exact Nat.zero_le _
    next hn =>
      cases ht : p.timer with
      | false => exact absurd (ht ▸ h) hn
      | true => exact hf ht

theorem dispatch_stays_closed {p : P} {e : Ev} (he : p.evq = [e]) (h1 : e ≠ .e1) (hs : p.sock = false) :
    (dispatch p false).1.sock = false := by
  cases ht : table e p.st with
  | none => rw [dispatch_undefined he ht]; exact hs
  | some a =>
    rw [dispatch_act he ht rfl, dropGen_eq, act_eq]
    exact ((cells_calm ht h1).2 p.requestor (p.rx == some .pdataErr) p.sock p.timer).2 hs

theorem tokStep_withNet (p : P) (r : Rx) (R : List Rx) (I : List (Option (List Rx))) :
    tokStep (withNet p R I) r = (withNet (tokStep p r).1 R I, (tokStep p r).2) :=
  dispatch_withNet (p := { p with rx := some r, evq := [evOfRx r] }) rfl (evOfRx_ne_e1 r) R I

theorem tokStep_core (p : P) (r : Rx) : tokStep (core p) r = (core (tokStep p r).1, (tokStep p r).2) :=
  tokStep_withNet p r [] []

theorem tokStep_calm {p : P} (h : CalmB p) (r : Rx) : Calm (tokStep p r).1 :=
  dispatch_calm (p := { p with rx := some r, evq := [evOfRx r] }) h rfl (evOfRx_ne_e1 r)

theorem eofStep_core (p : P) : eofStep (core p) = (core (eofStep p).1, (eofStep p).2) :=
  congrArg (fun x => (x.1, Out.close :: x.2))
    (dispatch_withNet (p := { p with evq := [.e17], sock := false, inbox := [] }) (e := .e17) rfl (by simp) [] [])

theorem eofStep_calm {p : P} (h : CalmB p) : Calm (eofStep p).1 := by
  obtain ⟨hu, hg, hf, _⟩ := h
  exact dispatch_calm (p := { p with evq := [.e17], sock := false, inbox := [] }) (e := .e17)
    ⟨hu, hg, hf, fun x => by cases x⟩ rfl (by simp)

theorem eofStep_halted (p : P) : halted (eofStep p).1 = true := by
  simp [halted, eofStep, dispatch_stays_closed (p := { p with evq := [.e17], sock := false, inbox := [] }) rfl (by simp) rfl]

theorem consume_none {p : P} (h : halted p = false) (s : List (Option Rx)) : consume p (none :: s) = eofStep p := by
  simp [consume, h, consume_halted _ (eofStep_halted p)]

theorem consume_eof (s : List (Option Rx)) (h : none ∈ s) (p : P) : halted (consume p s).1 = true := by
  fun_induction consume p s with
  | case1 => simp at h
  | case2 p x xs hh => exact hh
  | case3 p xs hh r ih => exact ih (by simpa using h)
  | case4 p xs hh ih => rw [consume_halted _ (eofStep_halted p)]; exact eofStep_halted p

/-- one pass of the loop over a state that already holds what the tick delivered -/
def pass (q : P) : P × List Out :=
  if q.crashed then (q, [])
  else ((dispatch (poll q) false).1,
        (if q.sock && !(poll q).sock then [Out.close] else []) ++ (dispatch (poll q) false).2)

def segCost : Option (List Rx) → Nat
  | none => 1
  | some t => 1 + t.length

/-- an upper bound on the passes still needed to read everything the transport holds: a buffered PDU takes one,
the end of the stream one, a segment of `k` PDUs `max k 1` (counted `1 + k` by `segCost`) -/
def mu (p : P) : Nat := if halted p then 0 else p.raw.length + (p.inbox.map segCost).sum

theorem mu_le (p : P) : mu p ≤ p.raw.length + (p.inbox.map segCost).sum := by
  unfold mu; split <;> simp

theorem mu_halted {p : P} (h : halted p = true) : mu p = 0 := if_pos h

theorem consume_mu_zero {p : P} (h : mu p = 0) : consume (core p) (stream p) = (core p, []) := by
  cases hh : halted p with
  | true => exact consume_halted (core p) hh _
  | false =>
    cases hr : p.raw with
    | cons => simp [mu, hh, hr] at h
    | nil =>
      cases hi : p.inbox with
      | nil => rw [stream, hr, hi]; rfl
      | cons s => cases s <;> simp [mu, hh, hi, segCost] at h

theorem Calm.pollRest {p : P} (h : Calm p) : PolledRest p p := by
  obtain ⟨⟨hu, hg, hf, _⟩, _⟩ := h
  exact .idle hg hu hf

theorem PolledRest.eq_of_calm {p q : P} (hp : PolledRest p q) (h : Calm p) : q = p := hp.eq.symm.trans h.pollRest.eq

theorem pass_halted {q : P} (h : Calm q) (hh : halted q = true) : pass q = (q, []) := by
  cases hc : q.crashed with
  | true => simp [pass, hc]
  | false =>
    have hs : q.sock = false := by simpa [halted, hc] using hh
    have hp : poll q = q := (Polled.closed hs h.pollRest).eq
    simp [pass, hc, hp, hs, dispatch_nil h.evq]

/-- what one pass makes of a calm state that is not halted: with `R`, `I` the input it leaves unread, it reads no PDU
(there is none, or it takes an empty segment off the transport), or processes the next one, or the end of the stream -/
theorem pass_calm {q : P} (h : Calm q) (hh : halted q = false) :
    (∃ R I, R.length + (I.map segCost).sum ≤ q.raw.length + (q.inbox.map segCost).sum - 1 ∧
      (stream q = stream (withNet q R I) ∧ pass q = (withNet q R I, []) ∨
       ∃ r, stream q = some r :: stream (withNet q R I) ∧ pass q = tokStep (withNet q R I) r)) ∨
    ∃ rest, stream q = none :: rest ∧ pass q = eofStep q := by
  obtain ⟨hs, hc⟩ := halted_false.mp hh
  have he := h.evq
  have h4 : q.st ≠ .s4 := h.1.2.2.2 hs
  have hpass : pass q = ((dispatch (poll q) false).1,
      (if !(poll q).sock then [Out.close] else []) ++ (dispatch (poll q) false).2) := by simp [pass, hc, hs]
  have hp := poll_polled q
  generalize poll q = q' at hp hpass
  have idle : ∀ R I, q' = withNet q R I → pass q = (withNet q R I, []) := by
    intro R I e
    rw [hpass, e, dispatch_nil (q := withNet q R I) he]; simp [withNet, hs]
  have tok : ∀ r R I, q' = { withNet q R I with rx := some r, evq := q.evq ++ [evOfRx r] } →
      pass q = tokStep (withNet q R I) r := by
    intro r R I e
    rw [hpass, e, he]; simp [withNet, hs, tokStep]
  cases hp with
  | closed hs' => cases hs.symm.trans hs'
  | connected _ h4' => exact absurd h4' h4
  | nothing _ _ hw hi hr => exact .inl ⟨q.raw, q.inbox, by simp [hw, hi], .inl ⟨rfl, idle _ _ (hr.eq_of_calm h)⟩⟩
  | emptySegment rest _ _ hw hi hr =>
    exact .inl ⟨[], rest, by simp [hw, hi, segCost],
      .inl ⟨by simp [stream, withNet, hw, hi, flat], idle _ _ (hr.eq_of_calm h)⟩⟩
  | buffered r rest _ _ hw =>
    exact .inl ⟨rest, q.inbox, by simp [hw], .inr ⟨r, by simp [stream, withNet, hw], tok _ _ _ rfl⟩⟩
  | segment r tl rest _ _ hw hi =>
    have hle : tl.length + (rest.map segCost).sum ≤ q.raw.length + (q.inbox.map segCost).sum - 1 := by
      simp only [hw, hi, segCost, List.map_cons, List.sum_cons, List.length_cons, List.length_nil]; omega
    exact .inl ⟨tl, rest, hle, .inr ⟨r, by simp [stream, withNet, hw, hi, flat], tok _ _ _ rfl⟩⟩
  | eof rest _ _ hw hi =>
    refine .inr ⟨flat rest, by simp [stream, hw, hi, flat], ?_⟩
    rw [hpass, he]; rfl

/-- **one pass = the next item of the stream** (or nothing, when there is none or the loop is halted) -/
theorem pass_consume (q : P) (h : Calm q) :
    Calm (pass q).1 ∧
    consume (core q) (stream q) =
      ((consume (core (pass q).1) (stream (pass q).1)).1,
       (pass q).2 ++ (consume (core (pass q).1) (stream (pass q).1)).2) := by
  cases hh : halted q with
  | true => rw [pass_halted h hh]; exact ⟨h, by simp⟩
  | false =>
    rcases pass_calm h hh with ⟨R, I, _, ⟨hst, hp⟩ | ⟨r, hst, hp⟩⟩ | ⟨rest, hst, hp⟩ <;> rw [hp, hst]
    · exact ⟨h, by simp [core_withNet]⟩
    · rw [tokStep_withNet, core_withNet, consume_some (p := core q) hh, tokStep_core]
      exact ⟨calm_withNet (tokStep_calm h.1 r) R I, rfl⟩
    · rw [consume_none (p := core q) hh, eofStep_core, consume_mu_zero (mu_halted (eofStep_halted q))]
      exact ⟨eofStep_calm h.1, by simp⟩

theorem pass_mu (q : P) (h : Calm q) : mu (pass q).1 ≤ mu q - 1 := by
  cases hh : halted q with
  | true => rw [pass_halted h hh, mu_halted hh]; exact Nat.zero_le _
  | false =>
    rw [show mu q = q.raw.length + (q.inbox.map segCost).sum by simp [mu, hh]]
    rcases pass_calm h hh with ⟨R, I, hle, ⟨_, hp⟩ | ⟨r, _, hp⟩⟩ | ⟨_, _, hp⟩ <;> rw [hp]
    · exact Nat.le_trans (mu_le (withNet q R I)) hle
    · rw [tokStep_withNet]; exact Nat.le_trans (mu_le (withNet _ R I)) hle
    · rw [mu_halted (eofStep_halted q)]; exact Nat.zero_le _

/-- a network-only pass is `pass` over what has arrived: nothing where halted (a dead loop does not look, a closed
transport delivers nothing) -/
theorem iter_pass {p : P} (he : p.evq = []) {t : Tick} (ht : NetOnly t) :
    iter p t = pass (withNet p p.raw (if halted p then p.inbox else p.inbox ++ delSeg t)) := by
  cases hc : p.crashed with
  | true =>
    rw [iter_crashed t hc, if_pos (by simp [halted, hc])]
    show _ = pass p
    simp [pass, hc]
  | false =>
    have hi : (if halted p then p.inbox else p.inbox ++ delSeg t) = (arrive p t).inbox := by
      rw [arrive_inbox]; cases hs : p.sock <;> simp [halted, hc, hs]
    obtain ⟨henq, hdt, hsf⟩ := ht
    have ha : arrive p t = withNet p p.raw (arrive p t).inbox := by
      simp only [arrive, withNet, henq, hdt, Nat.add_zero, List.append_nil]
    rw [iter_alive t hc, prePoll_nil t he, hsf, hi, ← ha]
    simp [pass, arrive, hc]

theorem iter_consume {p : P} {t : Tick} (h : Calm p) (ht : NetOnly t) :
    Calm (iter p t).1 ∧
    consume (core p) (stream p ++ flat (delSeg t)) =
      ((consume (core (iter p t).1) (stream (iter p t).1)).1,
       (iter p t).2 ++ (consume (core (iter p t).1) (stream (iter p t).1)).2) := by
  rw [iter_pass h.evq ht]
  obtain ⟨h1, h2⟩ := pass_consume (withNet p p.raw (if halted p then p.inbox else p.inbox ++ delSeg t)) h
  refine ⟨h1, Eq.trans ?_ h2⟩
  rw [core_withNet, stream_withNet]
  cases hh : halted p with
  | true => rw [consume_halted (core p) hh, consume_halted (core p) hh]
  | false => rw [if_neg (by simp), flat_append, ← List.append_assoc]; rfl

/-- everything a schedule delivers, in order -/
def dels (ts : List Tick) : List (Option Rx) := (ts.map fun t => flat (delSeg t)).flatten

/-- **the run as a function of the stream**: what a network-only schedule makes the provider do, followed
by what the unread rest would still make it do, is what the whole stream makes it do -/
theorem run_consume (ts : List Tick) : ∀ p, Calm p → (∀ t ∈ ts, NetOnly t) →
    Calm (run p ts).1 ∧
    consume (core p) (stream p ++ dels ts) =
      ((consume (core (run p ts).1) (stream (run p ts).1)).1,
       (run p ts).2 ++ (consume (core (run p ts).1) (stream (run p ts).1)).2) := by
  induction ts with
  | nil => intro p h _; exact ⟨h, by simp [run, dels]⟩
  | cons t ts ih =>
    intro p h hn
    obtain ⟨hc1, e1⟩ := iter_consume h (hn t List.mem_cons_self)
    obtain ⟨hc2, e2⟩ := ih (iter p t).1 hc1 fun x hx => hn x (List.mem_cons_of_mem _ hx)
    refine ⟨hc2, ?_⟩
    show consume (core p) (stream p ++ (flat (delSeg t) ++ dels ts)) = _
    rw [← List.append_assoc, consume_append_rest e1, e2]; simp [run]

theorem iter_idle_pass {p : P} (he : p.evq = []) : iter p {} = pass p := by
  rw [iter_pass he ⟨rfl, rfl, rfl⟩]; simp [withNet, delSeg]

/-- idle passes read everything: after `mu p` of them nothing is left unread -/
theorem idle_drains (n : Nat) : ∀ p, Calm p → mu (run p (List.replicate n {})).1 ≤ mu p - n := by
  induction n with
  | zero => exact fun p _ => Nat.le_refl _
  | succ n ih =>
    intro p h
    show mu (run (iter p {}).1 (List.replicate n {})).1 ≤ _
    rw [iter_idle_pass h.evq, Nat.add_comm n 1, Nat.sub_add_eq]
    exact Nat.le_trans (ih _ (pass_consume p h).1) (Nat.sub_le_sub_right (pass_mu p h) n)

theorem drained_after {p : P} (h : Calm p) {n : Nat} (hn : mu p ≤ n) : mu (run p (List.replicate n {})).1 = 0 :=
  Nat.le_zero.mp (Nat.le_trans (idle_drains n p h) (Nat.le_of_eq (Nat.sub_eq_zero_of_le hn)))

theorem netOnly_idle (n : Nat) : ∀ t ∈ List.replicate n ({} : Tick), NetOnly t :=
  fun _ ht => List.eq_of_mem_replicate ht ▸ ⟨rfl, rfl, rfl⟩

theorem dels_append (a b : List Tick) : dels (a ++ b) = dels a ++ dels b := by simp [dels]

theorem dels_idle (n : Nat) : dels (List.replicate n ({} : Tick)) = [] := by
  induction n with
  | zero => rfl
  | succ n ih => exact ih

/-- **a schedule, then enough idle passes**: the provider has done all that the delivered stream makes it do -/
theorem run_settles {p : P} (h : Calm p) {ts : List Tick} (hn : ∀ t ∈ ts, NetOnly t) {n : Nat}
    (hmu : mu (run p ts).1 ≤ n) :
    (core (run p (ts ++ List.replicate n ({} : Tick))).1, (run p (ts ++ List.replicate n ({} : Tick))).2) =
      consume (core p) (stream p ++ dels ts) := by
  have hd : mu (run p (ts ++ List.replicate n ({} : Tick))).1 = 0 := by
    rw [run_append]; exact drained_after (run_consume ts p h hn).1 hmu
  rw [← List.append_nil (dels ts), ← dels_idle n, ← dels_append,
    (run_consume _ p h (List.forall_mem_append.mpr ⟨hn, netOnly_idle n⟩)).2, consume_mu_zero hd]
  simp

/-- one pass at byte level: nothing arrives, a segment of bytes arrives, or the peer closes -/
inductive BNet
  | idle | data (seg : Bytes) | eof

/-- the abstract ticks of a byte-level schedule: each segment contributes the PDUs it completes (as the
receive path classifies them), the residue is carried to the next segment -/
def absTicks (cls : Bytes → Rx) : Bytes → List BNet → List Tick
  | _, [] => []
  | buf, .idle :: r => {} :: absTicks cls buf r
  | buf, .data seg :: r =>
      { net := .data ((frames (buf ++ seg)).1.map cls) } :: absTicks cls (frames (buf ++ seg)).2 r
  | buf, .eof :: r => { net := .eof } :: absTicks cls buf r

/-- the bytes a schedule delivers -/
def bytesOf : List BNet → Bytes
  | [] => []
  | .data seg :: r => seg ++ bytesOf r
  | _ :: r => bytesOf r

def noEof : List BNet → Prop
  | [] => True
  | .eof :: _ => False
  | _ :: r => noEof r

theorem absTicks_netOnly (cls : Bytes → Rx) (s : List BNet) (buf : Bytes) : ∀ t ∈ absTicks cls buf s, NetOnly t := by
  fun_induction absTicks cls buf s with
  | case1 => simp
  | case2 _ _ ih | case3 _ _ _ ih | case4 _ _ ih => exact List.forall_mem_cons.mpr ⟨⟨rfl, rfl, rfl⟩, ih⟩

/-- the tokens a byte-level schedule delivers are the PDUs of the byte stream, whatever the segmentation -/
theorem dels_absTicks (cls : Bytes → Rx) (s : List BNet) (hs : noEof s) : ∀ buf, frames buf = ([], buf) →
    dels (absTicks cls buf s) = ((frames (buf ++ bytesOf s)).1.map cls).map some := by
  intro buf hb
  fun_induction absTicks cls buf s with
  | case1 => simp [dels, bytesOf, hb]
  | case2 buf r ih => exact ih hs hb
  | case4 => exact absurd hs (by simp [noEof])
  | case3 buf seg r ih =>
    have := ih hs (frames_idem (buf ++ seg))
    simp only [dels, bytesOf, List.map_cons, List.flatten_cons, delSeg, flat, List.append_nil] at this ⊢
    rw [this, ← List.append_assoc buf seg, frames_append (buf ++ seg)]
    simp

end Dicom.Prov
