import Dicom.Proofs.Invariant
/-! The loop model, run over any history, follows the PS3.8 machine event by event. -/
namespace Dicom.Prov
open Dicom.UL

/-- kinds of observable effect, payloads erased.  (`crash` is given the shape of `close`; the comparison with the
machine assumes the loop survives, so the choice is never seen.) -/
inductive Shape | send | ind | close | connect | tStart | tStop
deriving DecidableEq, Repr

def shapeOfOut : Out → Shape
  | .send _ | .sendAbort _ => .send
  | .ind _ | .indAbort _ | .indDimse => .ind
  | .close => .close | .connect => .connect
  | .tStart | .tRestart => .tStart | .tStop => .tStop
  | .crash => .close

def shapeOfEff : Eff → Shape
  | .sendUser | .send _ | .sendAbort _ | .sendAbortAny => .send
  | .indReceived | .indAbort _ | .indDimse => .ind
  | .close => .close | .connect => .connect
  | .tStart | .tRestart => .tStart | .tStop => .tStop

/-- an action body has the next state and, shape by shape, the effects PS3.8 defines for it (`effects`), where AA-8
runs with the transport open and no P-DATA the DIMSE layer rejects is pending -/
theorem act_shapes (a : Act) (p : P) (hs : a = .aa8 → p.sock = true) (hrx : p.rx ≠ some .pdataErr) :
    (act a p).1.st = (effects a p.requestor (p.rx == some .pdataDone)).2 ∧
    (act a p).2.map shapeOfOut = (effects a p.requestor (p.rx == some .pdataDone)).1.map shapeOfEff := by
  cases a
  case aa8 => rw [act_aa8 (hs rfl)]; exact ⟨rfl, rfl⟩
  case dt2 | ar6 =>
    simp only [act, if_neg hrx]
    -- the model tells a completed message by the pending PDU, `effects` by its flag
    by_cases h : p.rx = some .pdataDone
    · rw [if_pos h, beq_iff_eq.mpr h]; exact ⟨rfl, rfl⟩
    · rw [if_neg h, beq_false_of_ne h]; exact ⟨rfl, rfl⟩
  all_goals exact ⟨rfl, rfl⟩

theorem dispatch_machine {q : P} {e : Ev} (h : Pending e q) (hnc : (dispatch q false).1.crashed = false)
    (hrx : q.rx ≠ some .pdataErr) :
    ∃ a, table e q.st = some a ∧
      (dispatch q false).1.st = (effects a q.requestor (q.rx == some .pdataDone)).2 ∧
      (dispatch q false).2.map shapeOfOut = (effects a q.requestor (q.rx == some .pdataDone)).1.map shapeOfEff := by
  cases ht : table e q.st with
  | none => rw [dispatch_undefined h.evq ht] at hnc; cases hnc
  | some a =>
    rw [dispatch_act h.evq ht rfl, dropGen_eq]
    exact ⟨a, rfl, act_shapes a { q with evq := [] } (fun h8 => (h.open ht (h8 ▸ rfl)).1) hrx⟩

/-- the reader noticing, in this pass, that the peer has closed the connection (it closes its own side) -/
def readerClose (p : P) (t : Tick) : Bool := p.sock && !(prePoll p t).sock

/-- the event a pass dispatches, with the one fact about the current PDU an action may depend on -/
def passEvent (p : P) (t : Tick) : Option (Ev × Bool) :=
  if p.crashed then none else
  match (prePoll p t).evq with
  | e :: _ => some (e, (prePoll p t).rx == some .pdataDone)
  | [] => none

theorem reader_close_is_e17 (p : P) (t : Tick) (hc : p.crashed = false) (h : readerClose p t = true) :
    ∃ c, passEvent p t = some (.e17, c) := by
  simp only [readerClose, Bool.and_eq_true, Bool.not_eq_true'] at h
  cases he : p.evq with
  | cons => rw [prePoll_cons t he] at h; cases h.1.symm.trans h.2
  | nil =>
    have := (prePoll_polled t he).sock h.1 h.2
    rw [show (arrive p t).evq = [] from he] at this
    exact ⟨(prePoll p t).rx == some .pdataDone, by simp [passEvent, hc, this]⟩

/-- no P-DATA the DIMSE layer rejects is pending or in the unread input -/
def NoErr (p : P) : Prop := some .pdataErr ∉ p.rx :: stream p

/-- a tick in which no write fails and the transport delivers no P-DATA the DIMSE layer rejects -/
def CleanTick (t : Tick) : Prop :=
  t.sendFails = false ∧ match t.net with | .data toks => Rx.pdataErr ∉ toks | _ => True

theorem CleanTick.noErr {t : Tick} (ht : CleanTick t) : some Rx.pdataErr ∉ flat (delSeg t) := by
  rcases t with ⟨_ | toks | _, _, _, _⟩
  case data => simpa [delSeg, flat] using ht.2
  all_goals simp [delSeg, flat]

theorem prePoll_noErr {p : P} {t : Tick} (h : NoErr p) (ht : CleanTick t) : NoErr (prePoll p t) :=
  fun x => (List.mem_append.mp (prePoll_input p t x)).elim h ht.noErr

theorem iter_noErr {p : P} {t : Tick} (h : NoErr p) (ht : CleanTick t) : NoErr (iter p t).1 :=
  iter_keeps h fun _ x => prePoll_noErr h ht (dispatch_input _ _ x)

/-- what a pass looks like from outside the action bodies: did the reader notice the peer's close, and which
event (with whether its P-DATA completes a DIMSE message) was dispatched -/
structure PassRec where
  peerClosed : Bool
  ev : Option (Ev × Bool)
deriving Repr

def trace : P → List Tick → List PassRec
  | _, [] => []
  | p, t :: ts => ⟨readerClose p t, passEvent p t⟩ :: trace (iter p t).1 ts

/-- the PS3.8 upper-layer machine (Table 9-10 and the action definitions), one pass record at a time -/
def machStep (req : Bool) (s : St) (r : PassRec) : Option (List Shape × St) :=
  match r.ev with
  | none => some ((if r.peerClosed then [Shape.close] else []), s)
  | some (e, c) => (table e s).map fun a =>
      ((if r.peerClosed then [Shape.close] else []) ++ (effects a req c).1.map shapeOfEff, (effects a req c).2)

def machRun (req : Bool) : St → List PassRec → Option (List Shape × St)
  | s, [] => some ([], s)
  | s, r :: rs =>
    match machStep req s r with
    | none => none
    | some (o, s') =>
      match machRun req s' rs with
      | none => none
      | some (o', s'') => some (o ++ o', s'')

theorem iter_machine {p : P} {t : Tick} (hinv : PInv p) (hn : NoErr p) (hc' : (iter p t).1.crashed = false)
    (ht : CleanTick t) :
    machStep p.requestor p.st ⟨readerClose p t, passEvent p t⟩ =
      some ((iter p t).2.map shapeOfOut, (iter p t).1.st) := by
  have hc : p.crashed = false := run_alive (ts := [t]) hc'
  rw [iter_alive t hc, ht.1] at hc' ⊢
  have hrc : ((if p.sock && !(prePoll p t).sock then [Out.close] else []) : List Out).map shapeOfOut =
      (if readerClose p t then [Shape.close] else []) := by
    unfold readerClose; split <;> rfl
  simp only [List.map_append, hrc]
  rcases prePoll_inv hinv hc t with hq | ⟨e, he⟩
  · rw [dispatch_nil hq.evq]; simp [machStep, passEvent, hc, hq.evq, prePoll_st]
  · obtain ⟨a, h1, h2, h3⟩ := dispatch_machine he hc' fun x => prePoll_noErr hn ht (x ▸ List.mem_cons_self)
    rw [prePoll_st] at h1
    simp [machStep, passEvent, hc, he.evq, h1, h2, h3, prePoll_requestor]

theorem run_machine {ts : List Tick} {p : P} (hinv : PInv p) (hn : NoErr p) (hfin : (run p ts).1.crashed = false)
    (hcl : ∀ t ∈ ts, CleanTick t) :
    machRun p.requestor p.st (trace p ts) = some ((run p ts).2.map shapeOfOut, (run p ts).1.st) := by
  induction ts generalizing p with
  | nil => rfl
  | cons t ts ih =>
    have ht := hcl t List.mem_cons_self
    have hih := ih (iter_inv hinv) (iter_noErr hn ht) hfin fun x hx => hcl x (List.mem_cons_of_mem _ hx)
    rw [iter_requestor] at hih
    simp [trace, machRun, iter_machine hinv hn (run_alive hfin) ht, hih, run]

end Dicom.Prov
