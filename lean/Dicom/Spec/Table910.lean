/-! PS3.8 §9.2: the upper-layer state machine — Table 9-10 and the action definitions of
Tables 9-6 … 9-9, transcribed from the standard.  Core Lean only. -/
namespace Dicom.UL

inductive St | s1 | s2 | s3 | s4 | s5 | s6 | s7 | s8 | s9 | s10 | s11 | s12 | s13
deriving DecidableEq, Repr

inductive Ev
  | e1 | e2 | e3 | e4 | e5 | e6 | e7 | e8 | e9 | e10 | e11 | e12 | e13 | e14 | e15 | e16 | e17 | e18 | e19
deriving DecidableEq, Repr

/-- PDU kinds -/
inductive K | rq | ac | rj | pdata | rlrq | rlrp | abort
deriving DecidableEq, Repr

inductive Act
  | ae1 | ae2 | ae3 | ae4 | ae5 | ae6 | ae7 | ae8 | dt1 | dt2
  | ar1 | ar2 | ar3 | ar4 | ar5 | ar6 | ar7 | ar8 | ar9 | ar10
  | aa1 | aa2 | aa3 | aa4 | aa5 | aa6 | aa7 | aa8
deriving DecidableEq, Repr

def St.ofNat? : Nat → Option St
  | 1 => some .s1 | 2 => some .s2 | 3 => some .s3 | 4 => some .s4 | 5 => some .s5 | 6 => some .s6
  | 7 => some .s7 | 8 => some .s8 | 9 => some .s9 | 10 => some .s10 | 11 => some .s11
  | 12 => some .s12 | 13 => some .s13 | _ => none

def St.toNat : St → Nat
  | .s1 => 1 | .s2 => 2 | .s3 => 3 | .s4 => 4 | .s5 => 5 | .s6 => 6 | .s7 => 7 | .s8 => 8 | .s9 => 9
  | .s10 => 10 | .s11 => 11 | .s12 => 12 | .s13 => 13

def Ev.ofNat? : Nat → Option Ev
  | 1 => some .e1 | 2 => some .e2 | 3 => some .e3 | 4 => some .e4 | 5 => some .e5 | 6 => some .e6
  | 7 => some .e7 | 8 => some .e8 | 9 => some .e9 | 10 => some .e10 | 11 => some .e11
  | 12 => some .e12 | 13 => some .e13 | 14 => some .e14 | 15 => some .e15 | 16 => some .e16
  | 17 => some .e17 | 18 => some .e18 | 19 => some .e19 | _ => none

def Ev.toNat : Ev → Nat
  | .e1 => 1 | .e2 => 2 | .e3 => 3 | .e4 => 4 | .e5 => 5 | .e6 => 6 | .e7 => 7 | .e8 => 8 | .e9 => 9
  | .e10 => 10 | .e11 => 11 | .e12 => 12 | .e13 => 13 | .e14 => 14 | .e15 => 15 | .e16 => 16
  | .e17 => 17 | .e18 => 18 | .e19 => 19

def K.name : K → String
  | .rq => "rq" | .ac => "ac" | .rj => "rj" | .pdata => "pdata" | .rlrq => "rlrq" | .rlrp => "rlrp"
  | .abort => "abort"

def allStates : List St := [.s1, .s2, .s3, .s4, .s5, .s6, .s7, .s8, .s9, .s10, .s11, .s12, .s13]
def allEvents : List Ev :=
  [.e1, .e2, .e3, .e4, .e5, .e6, .e7, .e8, .e9, .e10, .e11, .e12, .e13, .e14, .e15, .e16, .e17, .e18, .e19]

open St Ev Act in
/-- PS3.8 Table 9-10.  `none` = the standard defines no transition for the cell. -/
def table : Ev → St → Option Act
  | e1, s1 => some ae1
  | e2, s4 => some ae2
  | e3, s2 => some aa1 | e3, s5 => some ae3 | e3, s13 => some aa6
  | e3, s3 | e3, s6 | e3, s7 | e3, s8 | e3, s9 | e3, s10 | e3, s11 | e3, s12 => some aa8
  | e4, s2 => some aa1 | e4, s5 => some ae4 | e4, s13 => some aa6
  | e4, s3 | e4, s6 | e4, s7 | e4, s8 | e4, s9 | e4, s10 | e4, s11 | e4, s12 => some aa8
  | e5, s1 => some ae5
  | e6, s2 => some ae6 | e6, s13 => some aa7
  | e6, s3 | e6, s5 | e6, s6 | e6, s7 | e6, s8 | e6, s9 | e6, s10 | e6, s11 | e6, s12 => some aa8
  | e7, s3 => some ae7
  | e8, s3 => some ae8
  | e9, s6 => some dt1 | e9, s8 => some ar7
  | e10, s2 => some aa1 | e10, s6 => some dt2 | e10, s7 => some ar6 | e10, s13 => some aa6
  | e10, s3 | e10, s5 | e10, s8 | e10, s9 | e10, s10 | e10, s11 | e10, s12 => some aa8
  | e11, s6 => some ar1
  | e12, s2 => some aa1 | e12, s6 => some ar2 | e12, s7 => some ar8 | e12, s13 => some aa6
  | e12, s3 | e12, s5 | e12, s8 | e12, s9 | e12, s10 | e12, s11 | e12, s12 => some aa8
  | e13, s2 => some aa1 | e13, s7 => some ar3 | e13, s10 => some ar10 | e13, s11 => some ar3
  | e13, s13 => some aa6
  | e13, s3 | e13, s5 | e13, s6 | e13, s8 | e13, s9 | e13, s12 => some aa8
  | e14, s8 => some ar4 | e14, s9 => some ar9 | e14, s12 => some ar4
  | e15, s4 => some aa2
  | e15, s3 | e15, s5 | e15, s6 | e15, s7 | e15, s8 | e15, s9 | e15, s10 | e15, s11 | e15, s12 => some aa1
  | e16, s2 => some aa2 | e16, s13 => some aa2
  | e16, s3 | e16, s5 | e16, s6 | e16, s7 | e16, s8 | e16, s9 | e16, s10 | e16, s11 | e16, s12 => some aa3
  | e17, s2 => some aa5 | e17, s13 => some ar5
  | e17, s3 | e17, s4 | e17, s5 | e17, s6 | e17, s7 | e17, s8 | e17, s9 | e17, s10 | e17, s11 | e17, s12 => some aa4
  | e18, s2 => some aa2 | e18, s13 => some aa2
  | e19, s2 => some aa1 | e19, s13 => some aa7
  | e19, s3 | e19, s5 | e19, s6 | e19, s7 | e19, s8 | e19, s9 | e19, s10 | e19, s11 | e19, s12 => some aa8
  | _, _ => none

/-- Observable effects of an action, in order. -/
inductive Eff
  | sendUser              -- the user's own PDU (byte-identical to the encoding of the primitive)
  | send (k : K)          -- a PDU of kind k built by the provider (not A-ABORT)
  | sendAbort (src : Nat) -- an A-ABORT PDU built by the provider, with this source
  | indReceived           -- indication/confirmation carrying the received PDU itself
  | indAbort (src : Nat)  -- A-ABORT (src 0) / A-P-ABORT (src 2) indication built by the provider
  | indDimse              -- P-DATA indication: a complete DIMSE message handed to the user
  | close                 -- transport connection closed (close() and reference dropped)
  | connect               -- transport connection opened to the called address
  | tStart | tStop
  | tRestart              -- observation only: restart = stop + start
  | sendAbortAny          -- specification only: an A-ABORT PDU whose source the standard leaves open
deriving DecidableEq, Repr

/-- how the current primitive looks to the action: the variant of the test primitive -/
inductive Variant | v0 | v1
deriving DecidableEq, Repr

/-- result of presenting an event in a state -/
inductive Obs
  | rejected                       -- undefined cell: no effect at all, state unchanged
  | did (effs : List Eff) (next : St)
  | raised (what : String)         -- an exception other than the rejection of an undefined cell
  | rejectedWithEffects
deriving DecidableEq, Repr

open St Act Eff in
/-- PS3.8 Tables 9-6 … 9-9: effects and next state of each action.  `requestor` selects the AR-8
branch; `complete` says whether the P-DATA carried by the event completes a DIMSE message (this
library reassembles below the user: DT-2 / AR-6 indicate only complete messages). -/
def effects (a : Act) (requestor complete : Bool) : List Eff × St :=
  match a with
  | ae1 => ([connect], s4)
  | ae2 => ([sendUser], s5)
  | ae3 => ([indReceived], s6)
  | ae4 => ([indReceived, close], s1)
  | ae5 => ([tStart], s2)
  | ae6 => ([tStop, indReceived], s3)
  | ae7 => ([sendUser], s6)
  | ae8 => ([sendUser, tStart], s13)
  | dt1 => ([sendUser], s6)
  | dt2 => (if complete then [indDimse] else [], s6)
  | ar1 => ([send .rlrq], s7)
  | ar2 => ([indReceived], s8)
  | ar3 => ([indReceived, close], s1)
  | ar4 => ([send .rlrp, tStart], s13)
  | ar5 => ([tStop], s1)
  | ar6 => (if complete then [indDimse] else [], s7)
  | ar7 => ([sendUser], s8)
  | ar8 => ([indReceived], if requestor then s9 else s10)
  | ar9 => ([send .rlrp], s11)
  | ar10 => ([indReceived], s12)
  | aa1 => ([sendAbort 0, tStart], s13)     -- on Evt15 the PDU is the user's own (see `specCell`)
  | aa2 => ([tStop, close], s1)
  | aa3 => ([indReceived, close], s1)
  | aa4 => ([indAbort 2], s1)
  | aa5 => ([tStop], s1)
  | aa6 => ([], s13)
  | aa7 => ([sendAbortAny], s13)
  | aa8 => ([sendAbort 2, indAbort 2, tStart], s13)

/-- The specification of one cell: what must be observed when event `e` is presented in state `s`.
For Evt15 (A-ABORT request) AA-1 sends the user's own A-ABORT PDU. Variant v0 of a P-DATA-TF
completes a DIMSE message, v1 does not. -/
def specCell (requestor : Bool) (s : St) (e : Ev) (v : Variant) : Obs :=
  match table e s with
  | none => .rejected
  | some a =>
    if a = .aa1 ∧ e = .e15 then .did [.sendUser, .tStart] .s13
    else .did (effects a requestor (v == .v0)).1 (effects a requestor (v == .v0)).2

/-- does an observed effect meet the specified one?  Restarting ARTIM counts as starting it (AA-1:
"start or restart"); AA-7's A-ABORT may carry any source. -/
def effMatch : Eff → Eff → Bool
  | .tStart, .tStart => true
  | .tStart, .tRestart => true
  | .sendAbortAny, .sendAbort _ => true
  | a, b => a == b

def effsMatch : List Eff → List Eff → Bool
  | [], [] => true
  | a :: as, b :: bs => effMatch a b && effsMatch as bs
  | _, _ => false

/-- who can observe an effect: the peer / transport (0), the local user (1), the ARTIM timer (2) -/
def Eff.chan : Eff → Nat
  | .sendUser | .send _ | .sendAbort _ | .sendAbortAny | .close | .connect => 0
  | .indReceived | .indAbort _ | .indDimse => 1
  | .tStart | .tRestart | .tStop => 2

/-- effects compared as their observers see them: each observer's effects in order; how the effects of one
action interleave across observers (an indication and the close of the socket, say) is visible to nobody -/
def effsMatchByObserver (spec obs : List Eff) : Bool :=
  [0, 1, 2].all fun c => effsMatch (spec.filter (·.chan == c)) (obs.filter (·.chan == c))

/-- `obsMatch spec observed` -/
def obsMatch : Obs → Obs → Bool
  | .rejected, .rejected => true
  | .did es n, .did es' n' => effsMatchByObserver es es' && n == n'
  | _, _ => false

end Dicom.UL
