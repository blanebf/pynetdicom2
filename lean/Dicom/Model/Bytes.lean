/-! Bytes, big/little-endian fields, Python-style stream reads.  Core Lean only. -/
namespace Dicom

abbrev Bytes := List UInt8

/-- Python exceptions the models make explicit. -/
inductive Err
  | short        -- struct.error: buffer too small for the format
  | badItem      -- PDUProcessingError('Invalid variable item')
  | badUtf8      -- UnicodeDecodeError
  | keyError     -- KeyError
  | dimse        -- DIMSEProcessingError
  | index        -- IndexError
  | value        -- ValueError / anything else
deriving DecidableEq, Repr

def Err.name : Err → String
  | .short => "short" | .badItem => "badItem" | .badUtf8 => "badUtf8" | .keyError => "keyError"
  | .dimse => "dimse" | .index => "index" | .value => "value"

def be16 (n : Nat) : Bytes := [UInt8.ofNat (n / 256), UInt8.ofNat n]
def be32 (n : Nat) : Bytes :=
  [UInt8.ofNat (n / 16777216), UInt8.ofNat (n / 65536), UInt8.ofNat (n / 256), UInt8.ofNat n]
def le16 (n : Nat) : Bytes := [UInt8.ofNat n, UInt8.ofNat (n / 256)]
def le32 (n : Nat) : Bytes :=
  [UInt8.ofNat n, UInt8.ofNat (n / 256), UInt8.ofNat (n / 65536), UInt8.ofNat (n / 16777216)]

def rd8 : Bytes → Option (Nat × Bytes)
  | a :: r => some (a.toNat, r)
  | _ => none

def rd16 : Bytes → Option (Nat × Bytes)
  | a :: b :: r => some (a.toNat * 256 + b.toNat, r)
  | _ => none

def rd32 : Bytes → Option (Nat × Bytes)
  | a :: b :: c :: d :: r =>
      some (a.toNat * 16777216 + b.toNat * 65536 + c.toNat * 256 + d.toNat, r)
  | _ => none

def rdLe16 : Bytes → Option (Nat × Bytes)
  | a :: b :: r => some (a.toNat + b.toNat * 256, r)
  | _ => none

def rdLe32 : Bytes → Option (Nat × Bytes)
  | a :: b :: c :: d :: r =>
      some (a.toNat + b.toNat * 256 + c.toNat * 65536 + d.toNat * 16777216, r)
  | _ => none

/-! Base 256.  Towards the bytes, `n / 256 * 256 + n % 256 = n` takes the last digit off a number; back, `m * 256 + x`
has last digit `x` and rest `m` (`ofNat_step`, `div_step`).  `X_toNat`: the bytes `X n` writes denote `n`;
`X_of_bytes`: `X` of the number some bytes denote is those bytes; `rdX_X`, `rdX_some`: the same of the reader. -/

theorem horner32 (a b c d : Nat) : a * 16777216 + b * 65536 + c * 256 + d = ((a * 256 + b) * 256 + c) * 256 + d := by
  simp only [Nat.add_mul, Nat.mul_assoc, Nat.reduceMul]

theorem div_65536 (n : Nat) : n / 65536 = n / 256 / 256 := by rw [Nat.div_div_eq_div_mul]

theorem div_16777216 (n : Nat) : n / 16777216 = n / 256 / 256 / 256 := by
  rw [Nat.div_div_eq_div_mul, Nat.div_div_eq_div_mul]

theorem digits16 (n : Nat) (h : n < 65536) : n / 256 % 256 * 256 + n % 256 = n := by
  rw [Nat.mod_eq_of_lt (Nat.div_lt_of_lt_mul h)]; exact Nat.div_add_mod' n 256

theorem digits32 (n : Nat) (h : n < 4294967296) :
    n / 16777216 % 256 * 16777216 + n / 65536 % 256 * 65536 + n / 256 % 256 * 256 + n % 256 = n := by
  rw [horner32, Nat.mod_eq_of_lt (Nat.div_lt_of_lt_mul h : n / 16777216 < 256), div_16777216, div_65536,
    Nat.div_add_mod', Nat.div_add_mod', Nat.div_add_mod']

theorem u8_toNat (n : Nat) (h : n < 256) : (UInt8.ofNat n).toNat = n := UInt8.toNat_ofNat_of_lt' h

theorem be16_toNat (n : Nat) (h : n < 65536) : (UInt8.ofNat (n / 256)).toNat * 256 + (UInt8.ofNat n).toNat = n := by
  simp only [UInt8.toNat_ofNat', Nat.reducePow]
  exact digits16 n h

theorem be32_toNat (n : Nat) (h : n < 4294967296) :
    (UInt8.ofNat (n / 16777216)).toNat * 16777216 + (UInt8.ofNat (n / 65536)).toNat * 65536 +
      (UInt8.ofNat (n / 256)).toNat * 256 + (UInt8.ofNat n).toNat = n := by
  simp only [UInt8.toNat_ofNat', Nat.reducePow]
  exact digits32 n h

theorem rd16_be16 (n : Nat) (h : n < 65536) (r : Bytes) : rd16 (be16 n ++ r) = some (n, r) := by
  simp only [rd16, be16, List.cons_append, List.nil_append, be16_toNat n h]

theorem rd32_be32 (n : Nat) (h : n < 4294967296) (r : Bytes) :
    rd32 (be32 n ++ r) = some (n, r) := by
  simp only [rd32, be32, List.cons_append, List.nil_append, be32_toNat n h]

theorem rdLe16_le16 (n : Nat) (h : n < 65536) (r : Bytes) : rdLe16 (le16 n ++ r) = some (n, r) := by
  simp only [rdLe16, le16, List.cons_append, List.nil_append, UInt8.toNat_ofNat', Nat.reducePow]
  rw [Nat.add_comm, digits16 n h]

theorem rdLe32_le32 (n : Nat) (h : n < 4294967296) (r : Bytes) :
    rdLe32 (le32 n ++ r) = some (n, r) := by
  simp only [rdLe32, le32, List.cons_append, List.nil_append, UInt8.toNat_ofNat', Nat.reducePow]
  -- the same four digits, least significant first
  exact congrArg (fun m => some (m, r)) (Eq.trans (by ac_rfl) (digits32 n h))

theorem ofNat_step (m : Nat) (x : UInt8) : UInt8.ofNat (m * 256 + x.toNat) = x := by
  rw [← UInt8.toNat_inj, UInt8.toNat_ofNat', Nat.mul_add_mod', Nat.mod_eq_of_lt x.toNat_lt]

theorem div_step (m : Nat) (x : UInt8) : (m * 256 + x.toNat) / 256 = m := by
  rw [Nat.mul_comm, Nat.mul_add_div (by decide), Nat.div_eq_of_lt x.toNat_lt]; rfl

theorem lt_step {m k : Nat} (x : UInt8) (h : m < k) : m * 256 + x.toNat < k * 256 :=
  Nat.lt_mul_of_div_lt ((div_step m x).symm ▸ h) (by decide)

theorem be16_of_bytes (a b : UInt8) : be16 (a.toNat * 256 + b.toNat) = [a, b] := by
  rw [be16, div_step, ofNat_step, UInt8.ofNat_toNat]

theorem be32_of_bytes (a b c d : UInt8) :
    be32 (a.toNat * 16777216 + b.toNat * 65536 + c.toNat * 256 + d.toNat) = [a, b, c, d] := by
  rw [horner32, be32, div_16777216, div_65536, div_step, div_step, div_step, ofNat_step, ofNat_step, ofNat_step,
    UInt8.ofNat_toNat]

theorem rd16_some {s r : Bytes} {n : Nat} : rd16 s = some (n, r) → be16 n ++ r = s ∧ n < 65536 := by
  fun_cases rd16 s with
  | case1 a b => intro h; cases h; exact ⟨by rw [be16_of_bytes]; rfl, lt_step b a.toNat_lt⟩
  | case2 => nofun

theorem rd32_some {s r : Bytes} {n : Nat} : rd32 s = some (n, r) → be32 n ++ r = s ∧ n < 4294967296 := by
  fun_cases rd32 s with
  | case1 a b c d =>
    intro h; cases h
    exact ⟨by rw [be32_of_bytes]; rfl, by rw [horner32]; exact lt_step d (lt_step c (lt_step b a.toNat_lt))⟩
  | case2 => nofun

theorem rd8_ofNat (n : Nat) (h : n < 256) (r : Bytes) : rd8 (UInt8.ofNat n :: r) = some (n, r) := by
  rw [rd8, u8_toNat n h]

@[simp] theorem be16_length (n : Nat) : (be16 n).length = 2 := rfl
@[simp] theorem be32_length (n : Nat) : (be32 n).length = 4 := rfl
@[simp] theorem le16_length (n : Nat) : (le16 n).length = 2 := rfl
@[simp] theorem le32_length (n : Nat) : (le32 n).length = 4 := rfl

theorem length_flatten_map {α : Type} (e : α → Bytes) (n : α → Nat) (l : List α)
    (h : ∀ x ∈ l, (e x).length = n x) : (l.map e).flatten.length = (l.map n).sum := by
  rw [List.length_flatten, List.map_map]; exact congrArg List.sum (List.map_congr_left h)

/-- a concatenation of non-empty encodings is at least as long as the list: the fuel `length + 1` suffices -/
theorem length_le_flatten {α : Type} (e : α → Bytes) (h : ∀ x, ∃ b r, e x = b :: r) (l : List α) :
    l.length ≤ (l.map e).flatten.length := by
  induction l with
  | nil => exact Nat.le_refl 0
  | cons x xs ih =>
    obtain ⟨b, r, hx⟩ := h x
    rw [List.map_cons, List.flatten_cons, hx, List.cons_append, List.length_cons, List.length_cons, List.length_append]
    exact Nat.succ_le_succ (Nat.le_trans ih (Nat.le_add_left _ _))

/-- a list and the fuel of the loop that reads it go down together -/
theorem fuel_induction {α : Type} {motive : (l : List α) → (f : Nat) → l.length < f → Prop}
    (nil : ∀ f h, motive [] (f + 1) h)
    (cons : ∀ x l f h, motive l f h → motive (x :: l) (f + 1) (Nat.succ_lt_succ h)) :
    ∀ l f h, motive l f h
  | [], _ + 1, _ => nil _ _
  | x :: l, f + 1, h => cons x l f _ (fuel_induction nil cons l f (Nat.lt_of_succ_lt_succ h))

/-- Python `stream.read(n)`: up to n bytes, never fails. -/
def readN (n : Nat) (s : Bytes) : Bytes × Bytes := (s.take n, s.drop n)

/-! ### hex text (driver protocol) -/

def hexDigit (n : Nat) : Char :=
  if n < 10 then Char.ofNat (48 + n) else Char.ofNat (87 + n)

def byteToHex (b : UInt8) : String :=
  String.ofList [hexDigit (b.toNat / 16), hexDigit (b.toNat % 16)]

def bytesToHex (bs : Bytes) : String :=
  String.ofList (bs.flatMap fun b => [hexDigit (b.toNat / 16), hexDigit (b.toNat % 16)])

def hexVal (c : Char) : Option Nat :=
  if '0' ≤ c ∧ c ≤ '9' then some (c.toNat - 48)
  else if 'a' ≤ c ∧ c ≤ 'f' then some (c.toNat - 87)
  else if 'A' ≤ c ∧ c ≤ 'F' then some (c.toNat - 55)
  else none

def hexToBytesAux : List Char → Bytes → Option Bytes
  | [], acc => some acc.reverse
  | a :: b :: r, acc =>
    match hexVal a, hexVal b with
    | some x, some y => hexToBytesAux r (UInt8.ofNat (x * 16 + y) :: acc)
    | _, _ => none
  | _, _ => none

/-- "-" or "" is the empty byte string -/
def hexToBytes (s : String) : Option Bytes :=
  if s = "-" then some [] else hexToBytesAux s.toList []

end Dicom
