import Dicom.Model.Storage
import Dicom.Props.C03Framing
import Dicom.Props.C06
import Dicom.Props.C07
import Dicom.Proofs.PduDecode
/-! # C15 — C-STORE delivers the data set intact end to end; stored files are never clobbered -/
namespace Dicom.C15
open Dicom.Store

theorem exists?_iff {d : Dir} {n : Name} : exists? d n = true ↔ n ∈ d.map (·.1) := by
  simp only [exists?, List.any_eq_true, List.mem_map, beq_iff_eq]

/-- the names (uid, 0) … (uid, n-1), all present in `d`, are n distinct entries: n ≤ |d| -/
theorem chain_le_length (d : Dir) (uid : String) : ∀ n, (∀ j, j < n → exists? d (uid, j) = true) → n ≤ d.length := by
  intro n h
  have hnd : ((List.range n).map fun j => (uid, j)).Nodup :=
    List.nodup_range.map _ (fun a b hab heq => hab (Prod.mk.inj heq).2)
  have hsub : ((List.range n).map fun j => (uid, j)) ⊆ d.map (·.1) :=
    List.forall_mem_map.mpr fun j hj => exists?_iff.mp (h j (List.mem_range.mp hj))
  simpa using hnd.length_le_of_subset hsub

/-- the probing loop keeps "every name below `k` is taken"; by `chain_le_length` it cannot go on for `d.length + 1` probes -/
theorem pick_new (d : Dir) (uid : String) (fuel k : Nat) (hk : ∀ j, j < k → exists? d (uid, j) = true)
    (hf : d.length < k + fuel) : exists? d (uid, pick d uid fuel k) = false := by
  fun_induction pick d uid fuel k with
  | case1 k => exact absurd (chain_le_length d uid k hk) (by omega)
  | case2 fuel k he ih => exact ih (fun j hj => if h : j = k then h ▸ he else hk j (by omega)) (by omega)
  | case3 fuel k he => exact Bool.eq_false_iff.mpr he

/-- **the name chosen for a new file is not in the directory** -/
theorem freshName_new (d : Dir) (uid : String) : exists? d (freshName d uid) = false :=
  pick_new d uid _ 0 (fun _ hj => absurd hj (Nat.not_lt_zero _)) (by omega)

/-- **one store never clobbers**: every file that existed keeps its name and content, and exactly one
new name appears, holding the new instance -/
theorem store_never_clobbers (d : Dir) (uid : String) (content : List UInt8) :
    store d uid content = d ++ [(freshName d uid, content)] := by
  simp [store, freshName_new]

/-- **any history of stores** — same instance stored repeatedly, interleaved with others: the directory
after the history is the directory before followed by one new file per store; nothing earlier changed -/
theorem storage_never_clobbers (d : Dir) (hist : List (String × List UInt8)) :
    ∃ added, storeAll d hist = d ++ added ∧ added.length = hist.length ∧
      added.map (·.2) = hist.map (·.2) := by
  induction hist generalizing d with
  | nil => exact ⟨[], by simp [storeAll], rfl, rfl⟩
  | cons h rest ih =>
    obtain ⟨u, c⟩ := h
    obtain ⟨added, h1, h2, h3⟩ := ih (store d u c)
    exact ⟨(freshName d u, c) :: added, by rw [storeAll, h1, store_never_clobbers]; simp, by simp [h2], by simp [h3]⟩

/-- all names in the directory stay distinct (so "its own file" is meaningful) -/
theorem names_stay_distinct (d : Dir) (uid : String) (content : List UInt8) (h : (d.map (·.1)).Nodup) :
    ((store d uid content).map (·.1)).Nodup := by
  have hnew : freshName d uid ∉ d.map (·.1) := by rw [← exists?_iff, freshName_new]; exact Bool.false_ne_true
  simp only [store_never_clobbers, List.map_append, List.map_cons, List.map_nil, List.nodup_append]
  exact ⟨h, by simp, fun a ha b hb heq => hnew (List.mem_singleton.mp hb ▸ heq ▸ ha)⟩

example : (storeAll [] [("1.2", [1]), ("1.2", [2]), ("9", [3]), ("1.2", [4])]).map (·.1)
    = [("1.2", 0), ("1.2", 1), ("9", 0), ("1.2", 2)] := by decide

theorem applyOps_eq_foldl (d : Dir) (ops : List DirOp) : applyOps d ops = ops.foldl applyOp d := by
  induction ops generalizing d with
  | nil => rfl
  | cons op rest ih => exact ih _

theorem applyOps_append (d : Dir) (a b : List DirOp) : applyOps d (a ++ b) = applyOps (applyOps d a) b := by
  simp only [applyOps_eq_foldl, List.foldl_append]

theorem applyOps_induction {P : Dir → Prop} {ops : List DirOp}
    (step : ∀ d, ∀ op ∈ ops, P d → P (applyOp d op)) {d} (h : P d) : P (applyOps d ops) :=
  applyOps_eq_foldl d ops ▸ List.foldlRecOn ops applyOp h fun d hd op hop => step d op hop hd

theorem op_keeps_others (d : Dir) (op : DirOp) (e : Name × List UInt8) (he : e ∈ d)
    (hk : ∀ n, op = .remove n → e.1 ≠ n) : e ∈ applyOp d op := by
  cases op with
  | store u c => simp [applyOp, store_never_clobbers, he]
  | remove n => simpa [applyOp, he] using hk n rfl

theorem op_names_distinct (d : Dir) (op : DirOp) (h : (d.map (·.1)).Nodup) : ((applyOp d op).map (·.1)).Nodup := by
  cases op with
  | store u c => exact names_stay_distinct d u c h
  | remove n => exact h.sublist (List.filter_sublist.map _)

/-- **any history of stores and removals**: a file that is in the directory and is never removed is still there,
with the same content, at the end - whatever was stored (same instance or others) and removed around it -/
theorem ops_keep_unremoved (d : Dir) (ops : List DirOp) (e : Name × List UInt8) (he : e ∈ d)
    (hk : ∀ n, DirOp.remove n ∈ ops → e.1 ≠ n) : e ∈ applyOps d ops :=
  applyOps_induction (P := (e ∈ ·)) (fun d op hop h => op_keeps_others d op e h (fun n hn => hk n (hn ▸ hop))) he

/-- ... and every store of the history adds exactly one file, under a name no file had at that moment -/
theorem store_in_history_is_fresh (d : Dir) (ops : List DirOp) (u : String) (c : List UInt8) :
    applyOps d (ops ++ [.store u c]) = applyOps d ops ++ [(freshName (applyOps d ops) u, c)] ∧
    exists? (applyOps d ops) (freshName (applyOps d ops) u) = false :=
  ⟨by rw [applyOps_append]; exact store_never_clobbers _ u c, freshName_new _ _⟩

/-- names stay distinct through any history of stores and removals -/
theorem ops_names_distinct (d : Dir) (ops : List DirOp) (h : (d.map (·.1)).Nodup) :
    ((applyOps d ops).map (·.1)).Nodup :=
  applyOps_induction (P := fun d => (d.map (·.1)).Nodup) (fun d op _ => op_names_distinct d op) h

/-- the history a counting implementation gets wrong: two copies, the first taken away, a third store -/
example : (applyOps [] [.store "1.2" [1], .store "1.2" [2], .remove ("1.2", 0), .store "1.2" [3]])
    = [(("1.2", 1), [2]), (("1.2", 0), [3])] := by decide

/-! The data set end to end: fragmentation, PDU encoding, any TCP segmentation, framing, PDU decoding,
reassembly — the composition of C06, C01, C03 and C07 -/

/-- one fragment on the wire: a P-DATA-TF PDU with a single PDV (control header byte, then the fragment) -/
def pduOf (f : Frag) : Pdu := .pdata 0 [⟨f.pc, UInt8.ofNat f.mch :: f.body⟩]

def wireOf (f : Frag) : Bytes := (pduOf f).enc

/-- what the receiving DIMSE layer makes of a decoded P-DATA-TF: its PDVs as fragments -/
def fragsOfPdu : Pdu → List Frag
  | .pdata _ pdvs => pdvs.filterMap fun v => match v.value with
      | m :: body => some ⟨v.ctx, m.toNat, body⟩
      | [] => none
  | _ => []

theorem wellframed_wire (f : Frag) (hb : f.body.length + 6 < 4294967296) : Framed (wireOf f) := by
  -- the PDU length field holds the PDV's item length (4 bytes), context id, control header and the fragment
  have hw : wireOf f = 4 :: 0 :: (be32 (f.body.length + 6) ++ encPdvs [⟨f.pc, UInt8.ofNat f.mch :: f.body⟩]) := by
    simp +arith [wireOf, pduOf, Pdu.enc, u8, Pdv.totalLength]
  rw [hw, Framed, len32_be32 _ _ _ hb]
  simp +arith [encPdvs, Pdv.enc, u8]

theorem frames_wellframed_list (ps : List Bytes) (h : ∀ p ∈ ps, 6 ≤ p.length ∧ p.length = len32 p + 6) :
    frames ps.flatten = (ps, []) := by
  simpa [frames_nil] using frames_flatten ps h []

theorem decode_wire (f : Frag) (h : f.pc < 256 ∧ f.mch < 256 ∧ f.body.length + 6 < 4294967296) :
    (decodePdu (wireOf f)).map fragsOfPdu = some [f] := by
  obtain ⟨hp, hm, hb⟩ := h
  have hwf : (pduOf f).WF := by
    simp [pduOf, Pdu.WF, Pdv.WF, Pdv.totalLength, hp]; omega
  rw [wireOf, decodePdu_enc _ hwf]
  simp [pduOf, fragsOfPdu, u8_toNat f.mch hm]

/-- the first two parts of `store_end_to_end`, for any fragments that fit the fields of a one-PDV P-DATA-TF -/
theorem wire_transport (fs : List Frag) (h : ∀ f ∈ fs, f.pc < 256 ∧ f.mch < 256 ∧ f.body.length + 6 < 4294967296)
    (segs : List Bytes) (hs : segs.flatten = (fs.map wireOf).flatten) :
    segs.foldl feed ([], []) = (fs.map wireOf, []) ∧
    ∀ f ∈ fs, (decodePdu (wireOf f)).map fragsOfPdu = some [f] := by
  refine ⟨?_, fun f hf => decode_wire f (h f hf)⟩
  rw [C03.segmentation_independent, hs]
  exact frames_wellframed_list _ (List.forall_mem_map.mpr fun f hf => wellframed_wire f (h f hf).2.2)

/-- **C15 (transport identity).** A message fragmented with any usable maximum length, each fragment
encoded as a P-DATA-TF PDU, the byte stream cut into TCP segments in *any* way, is framed into exactly
those PDUs with nothing left over, each decodes to its fragment, and the receiving decoder reassembles
exactly the command set and the data set that were sent, completing at the last PDU. -/
theorem store_end_to_end (noDs : Bytes → Bool) (pc maxLen : Nat) (cmd data : Bytes) (segs : List Bytes)
    (hpc : pc < 256) (hm : usableMax maxLen) (hc : cmd ≠ []) (hd : data ≠ []) (hno : noDs cmd = false)
    (hsz : effMax maxLen < 4294967296)
    (hs : segs.flatten = ((encodeMsg pc maxLen cmd (some data)).map wireOf).flatten) :
    segs.foldl feed ([], []) = ((encodeMsg pc maxLen cmd (some data)).map wireOf, []) ∧
    (∀ f ∈ encodeMsg pc maxLen cmd (some data), (decodePdu (wireOf f)).map fragsOfPdu = some [f]) ∧
    ∃ df, Dec.run noDs {} ((encodeMsg pc maxLen cmd (some data)).map ([·])) =
        some (df, (encodeMsg pc maxLen cmd (some data)).length) ∧
      df.receiving = false ∧ df.cmd = cmd ∧ df.data = data ∧ df.pc = pc := by
  -- C06: every fragment fits the wire's fields
  have hfr : ∀ f ∈ encodeMsg pc maxLen cmd (some data),
      f.pc < 256 ∧ f.mch < 256 ∧ f.body.length + 6 < 4294967296 := by
    intro f hf
    obtain ⟨-, hb, rfl, hm3⟩ := encodeMsgN_bound pc _ cmd (some data) f hf
    exact ⟨hpc, Nat.lt_of_le_of_lt hm3 (by decide), by omega⟩
  obtain ⟨h1, h2⟩ := wire_transport _ hfr segs hs
  refine ⟨h1, h2, ?_⟩
  -- C07, with one fragment per PDU
  have hg : ((encodeMsg pc maxLen cmd (some data)).map ([·])).flatten = encodeMsg pc maxLen cmd (some data) := by
    rw [← List.flatMap_def, List.flatMap_singleton']
  have := C07.reassembly_exact noDs pc maxLen cmd (some data) _ hg (by simp) hm hc
    (fun _ h => Option.some.inj h ▸ hd) (hno.trans rfl)
  rwa [List.length_map] at this

end Dicom.C15
