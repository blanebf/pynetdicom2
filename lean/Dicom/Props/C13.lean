import Dicom.Proofs.Peer
import Dicom.Proofs.Sched
/-! # C13 — every ending terminates the provider and releases the connection (model level) -/
namespace Dicom.C13
open Dicom.UL Dicom.Prov

/-- **the peer disconnects**: from any quiescent state with an open connection and no complete PDU
still buffered, the pass in which the reader sees the end of the stream ends idle with the transport
closed — whatever the local user has queued, whatever the protocol state — and the user is told
(A-P-ABORT) if an association had been indicated or requested. -/
theorem closes_after_eof (p : P) (t : Tick) (hq : Quiet p) (hs : p.sock = true) (h4 : p.st ≠ .s4)
    (hraw : p.raw = []) (hin : p.inbox = []) (hn : t.net = .eof) :
    (iter p t).1.st = .s1 ∧ (iter p t).1.sock = false ∧ (iter p t).1.crashed = false ∧
    (p.st ≠ .s2 → p.st ≠ .s13 → Out.indAbort 2 ∈ (iter p t).2) := by
  have h1 : p.st ≠ .s1 := hq.sock_iff.mp hs
  have hi : (arrive p t).inbox = [none] := by simp [arrive, hs, hn, hin]
  -- the reader sees the end of the stream, closes its side and raises Evt17, whose row is AA-5 / AR-5 / AA-4
  have step := fun a ht hf =>
    iter_step (a := a) hq.alive hq.evq (.eof _ hs h4 hraw hi) rfl ht hf
  rcases table_e17 h1 with ⟨h2, ht⟩ | ⟨h13, ht⟩ | ⟨h2, h13, ht⟩ <;> rw [step _ ht (Bool.and_false _), dropGen_eq]
  · exact ⟨rfl, rfl, hq.alive, fun h => absurd h2 h⟩
  · exact ⟨rfl, rfl, hq.alive, fun _ h => absurd h13 h⟩
  · exact ⟨rfl, rfl, hq.alive, fun _ _ => List.mem_append_right _ (.head _)⟩

/-- a tick in which nothing happens but time passing -/
def Silent (t : Tick) : Prop := t.net = .idle ∧ t.enq = []

/-- at rest: quiet in Sta1, nothing of the local user pending -/
def AtRest (p : P) : Prop := Quiet p ∧ p.st = .s1 ∧ p.fromUser = [] ∧ p.gen = 0

theorem AtRest.closed {p : P} (h : AtRest p) : p.st = .s1 ∧ p.sock = false ∧ p.crashed = false :=
  ⟨h.2.1, h.1.idle_iff.mp h.2.1, h.1.alive⟩

theorem artim_pass {p : P} {t : Tick} (hq : Quiet p) (hst : p.st = .s2 ∨ p.st = .s13)
    (hraw : p.raw = []) (hin : p.inbox = []) (hu : p.fromUser = []) (hg : p.gen = 0)
    (ht : Silent t) (hexp : p.now + t.dt - p.tstart > artim) : AtRest (iter p t).1 := by
  have hs : p.sock = true := hq.sock_iff.mpr fun e => by simp [e] at hst
  have h4 : p.st ≠ .s4 := fun e => by simp [e] at hst
  have hi : (arrive p t).inbox = [] := by simp [arrive, hs, ht.1, hin]
  have hua : (arrive p t).fromUser = [] := by simp [arrive, hu, ht.2]
  have hinv : PInv (iter p t).1 := iter_inv hq.inv
  -- nothing to read, nothing from the user: ARTIM's expiry is the event, and its cell is AA-2
  rw [iter_step hq.alive hq.evq (.nothing hs h4 hraw hi (.artim hg hua (hq.timerOk.mpr hst) hexp))
    rfl (table_e18 hst) (Bool.and_false _), dropGen_eq] at hinv ⊢
  exact ⟨hinv.quiet hq.alive rfl, rfl, hua, rfl⟩

/-- **the peer stays silent**: awaiting the first PDU (Sta2) or the peer's close (Sta13), once ARTIM
has run out the next quiet pass closes the transport and returns to idle. -/
theorem closes_by_artim (p : P) (t : Tick) (hq : Quiet p) (hst : p.st = .s2 ∨ p.st = .s13)
    (hraw : p.raw = []) (hin : p.inbox = []) (hu : p.fromUser = []) (hg : p.gen = 0)
    (hn : t.net = .idle) (he : t.enq = []) (hexp : p.now + t.dt - p.tstart > artim) :
    (iter p t).1.st = .s1 ∧ (iter p t).1.sock = false ∧ (iter p t).1.crashed = false :=
  (artim_pass hq hst hraw hin hu hg ⟨hn, he⟩ hexp).closed

theorem silent_pass {p : P} {t : Tick} (hc : p.crashed = false) (he : p.evq = []) (hu : p.fromUser = [])
    (hg : p.gen = 0) (ht : Silent t)
    (hnet : p.sock = true → p.st ≠ .s4 ∧ p.raw = [] ∧ p.inbox = [])
    (hart : p.timer = true → p.now + t.dt - p.tstart ≤ artim) :
    iter p t = (arrive p t, []) ∧ (arrive p t).fromUser = [] ∧ (arrive p t).inbox = p.inbox := by
  have hua : (arrive p t).fromUser = [] := by simp [arrive, hu, ht.2]
  have hi : (arrive p t).inbox = p.inbox := by simp [arrive, ht.1]
  have hrest : PolledRest (arrive p t) (arrive p t) := .idle hg hua hart
  refine ⟨iter_idle hc he ?_, hua, hi⟩
  cases hs : p.sock with
  | false => exact .closed hs hrest
  | true => obtain ⟨h4, hr, hin⟩ := hnet hs; exact .nothing hs h4 hr (hi ▸ hin) hrest

theorem idle_stays {p : P} (h : AtRest p) {ts : List Tick} (hs : ∀ t ∈ ts, Silent t) : AtRest (run p ts).1 :=
  run_induction (fun ⟨hq, h1, hu, hg⟩ ht => by
    obtain ⟨hi, hua, _⟩ := silent_pass hq.alive hq.evq hu hg ht (fun h => absurd h1 (hq.sock_iff.mp h))
      (fun h => by rw [hq.timerOk.idle h1] at h; cases h)
    rw [hi]; exact ⟨hq, h1, hua, hg⟩) h hs

/-- **the peer stays silent, over every schedule**: awaiting the first PDU (Sta2) or the peer's close (Sta13)
with nothing buffered, any sequence of passes in which nothing arrives and the local user does nothing, and
during which more than the ARTIM period elapses in total, ends idle with the transport closed — however the
time is spread over the passes, and however many more silent passes follow. -/
theorem silence_always_ends (ts : List Tick) (hs : ∀ t ∈ ts, Silent t) : ∀ (p : P), Quiet p →
    (p.st = .s2 ∨ p.st = .s13) → p.raw = [] → p.inbox = [] → p.fromUser = [] → p.gen = 0 →
    p.now - p.tstart ≤ artim → p.now + (ts.map (·.dt)).sum - p.tstart > artim →
    (run p ts).1.st = .s1 ∧ (run p ts).1.sock = false ∧ (run p ts).1.crashed = false := by
  induction ts with
  | nil => exact fun p _ _ _ _ _ _ hnot hexp => absurd hnot (Nat.not_le.mpr hexp)
  | cons t ts ih =>
    intro p hq hst hraw hin hu hg _ hexp
    have ⟨ht, hrest⟩ := List.forall_mem_cons.mp hs
    rw [run]
    by_cases hnow : p.now + t.dt - p.tstart > artim
    · -- ARTIM has run out at this pass: it ends idle, and stays so
      exact (idle_stays (artim_pass hq hst hraw hin hu hg ht hnow) hrest).closed
    · -- not yet: the pass only lets time go by
      have h4 : p.st ≠ .s4 := fun e => by simp [e] at hst
      obtain ⟨hi, hua, hia⟩ :=
        silent_pass hq.alive hq.evq hu hg ht (fun _ => ⟨h4, hraw, hin⟩) (fun _ => Nat.not_lt.mp hnow)
      rw [hi]
      exact ih hrest _ hq hst hraw (hia ▸ hin) hua hg (Nat.not_lt.mp hnow)
        (by rwa [List.map_cons, List.sum_cons, ← Nat.add_assoc] at hexp)

/-- **a request to stop always completes**: every pass of the loop returns (the model has no blocking
call: `iter` is a total function), so the termination flag is looked at again after each pass. -/
theorem stop_completes (p : P) (t : Tick) : ∃ p' o, iter p t = (p', o) := ⟨_, _, rfl⟩

/-- a whole ending: an established association whose peer disappears -/
example : (run initAcc [{}, { net := .data [.rq] }, { enq := [.ac] }, { net := .eof }]).1.st = .s1
    ∧ (run initAcc [{}, { net := .data [.rq] }, { enq := [.ac] }, { net := .eof }]).1.sock = false := by decide

/-- rejection followed by a peer that never closes: ARTIM ends it -/
example : (run initAcc [{}, { net := .data [.rq] }, { enq := [.rj] }, { dt := 11 }]).1.st = .s1 := by decide

/-- **the peer's close ends the association, over every schedule.**  From any reachable calm state (nothing of
the local user pending), whatever the peer sent before closing, however the transport segmented and timed
it, once the close has been delivered at most `mu` further passes leave the provider idle, the transport
closed, ARTIM stopped and the loop alive. -/
theorem peer_close_always_ends (p : P) (hp : Calm p) (hinv : PInv p) (hc : p.crashed = false) (ts : List Tick)
    (hn : ∀ t ∈ ts, NetOnly t) (heof : none ∈ dels ts) (n : Nat) (hmu : mu (run p ts).1 ≤ n) :
    (run p (ts ++ List.replicate n ({} : Tick))).1.st = .s1 ∧ (run p (ts ++ List.replicate n ({} : Tick))).1.sock = false ∧
    (run p (ts ++ List.replicate n ({} : Tick))).1.timer = false ∧
    (run p (ts ++ List.replicate n ({} : Tick))).1.crashed = false := by
  have hall : ∀ t ∈ ts ++ List.replicate n ({} : Tick), NetOnly t :=
    List.forall_mem_append.mpr ⟨hn, netOnly_idle n⟩
  -- the final state is alive and quiet
  have hcr := (run_peer hinv (hp.noUser hc) fun t ht => (hall t ht).1).alive
  have hq := (run_inv hinv _).quiet hcr (run_consume _ p hp hall).1.evq
  -- it is where the whole stream leads, and the stream contains the close
  have hh := consume_eof (stream p ++ dels ts) (by simp [heof]) (core p)
  rw [← run_settles hp hn hmu] at hh
  have hsock : (run p (ts ++ List.replicate n ({} : Tick))).1.sock = false := by
    simpa [halted, core, withNet, hcr] using hh
  have hst := hq.idle_iff.mpr hsock
  exact ⟨hst, hsock, hq.timerOk.idle hst, hcr⟩

/-- non-vacuity: the acceptor after its first pass (Sta2, awaiting the A-ASSOCIATE-RQ) meets the premises, and
a schedule "garbage, a release request, then the close" delivers the close -/
example : Calm (iter initAcc {}).1 ∧ PInv (iter initAcc {}).1 ∧ (iter initAcc {}).1.crashed = false ∧
    none ∈ dels [{ net := .data [.invalid, .rlrq] }, { net := .eof }] :=
  ⟨⟨⟨by decide, by decide, fun _ => by decide, fun _ => by decide⟩, by decide⟩, iter_inv initAcc_inv, by decide, by decide⟩

end Dicom.C13
