import Dicom.Proofs.Dimse
/-! # C06 — DIMSE fragmentation: size bound, fragment flags, byte-exact content

`encodeMsg pc maxLen cmd data` mirrors `DIMSEMessage.encode`: the list of fragments, each sent as
its own P-DATA-TF PDU with one PDV (`pduLength = 6 + fragment length`).  All statements hold for every
command set, every data set, every presentation context and every usable maximum length
(0 = no limit, or ≥ 7), with no bound on any size.

The code cuts fragments of the largest size the limit allows.  C06 does not ask for that: every statement is
proved for any fragment size from 1 up to `maximum − 6` (`encodeMsgN`, `fragN_*`), which is what the
correspondence check uses when an implementation chooses another size (it compares with `encodeMsgN` at the
size observed); the statements about `encodeMsg` are the instance `n = effMax maxLen − 6`. -/
namespace Dicom.C06

theorem encodeMsg_eq_N (pc maxLen : Nat) (cmd : Bytes) (data : Option Bytes) :
    encodeMsg pc maxLen cmd data = encodeMsgN pc (effMax maxLen - 6) cmd data := rfl

/-- size bound, non-empty, context (`frag_size`), for any fragment size that fits -/
theorem fragN_size (pc n maxLen : Nat) (cmd : Bytes) (data : Option Bytes) (hle : n + 6 ≤ effMax maxLen) :
    ∀ f ∈ encodeMsgN pc n cmd data, f.pduLength ≤ effMax maxLen ∧ f.body ≠ [] ∧ f.pc = pc := by
  intro f hf
  have := encodeMsgN_bound pc n cmd data f hf
  exact ⟨by simp only [Frag.pduLength]; omega, this.1, this.2.2.1⟩

/-- order and flags (`frag_shape`), for any fragment size -/
theorem fragN_shape (pc n : Nat) (cmd : Bytes) (data : Option Bytes) (hn : 0 < n)
    (hc : cmd ≠ []) :
    ∃ (ic : List Bytes) (lc : Bytes) (dpart : List Frag),
      encodeMsgN pc n cmd data = (ic.map (fun b => ⟨pc, 1, b⟩) ++ [⟨pc, 3, lc⟩]) ++ dpart ∧
      ic.flatten ++ lc = cmd ∧
      (match data with
       | none => dpart = []
       | some d => d = [] ∧ dpart = [] ∨
           ∃ (idt : List Bytes) (ld : Bytes),
             dpart = idt.map (fun b => ⟨pc, 0, b⟩) ++ [⟨pc, 2, ld⟩] ∧ idt.flatten ++ ld = d) := by
  -- the two existentials spelled out are `Cutting pc 1 3 cmd` of the command part and `Cutting pc 0 2 d` of `dpart`
  obtain ⟨ic, lc, h1, h2⟩ := fragsOf_cutting pc 1 3 n hn cmd hc
  refine ⟨ic, lc, _, by rw [← h1]; rfl, h2, ?_⟩
  cases data with
  | none => rfl
  | some d =>
    by_cases hd : d = []
    · exact .inl ⟨hd, fragsOf_eq_nil.mpr (.inr hd)⟩
    · exact .inr (fragsOf_cutting pc 0 2 n hn d hd)

/-- content (`frag_content`), for any fragment size -/
theorem fragN_content (pc n : Nat) (cmd : Bytes) (data : Option Bytes) (hn : 0 < n) :
    (((encodeMsgN pc n cmd data).filter (fun f => f.mch = 1 ∨ f.mch = 3)).map (·.body)).flatten = cmd ∧
    (((encodeMsgN pc n cmd data).filter (fun f => f.mch = 0 ∨ f.mch = 2)).map (·.body)).flatten
      = data.getD [] := by
  -- each filter keeps one part whole and drops the other whole
  have c := fragsOf_filter (fun m => decide (m = 1 ∨ m = 3))
  have d := fragsOf_filter (fun m => decide (m = 0 ∨ m = 2))
  simp only [encodeMsgN_eq, List.filter_append, c true 1 3 rfl rfl, d false 1 3 rfl rfl, c false 0 2 rfl rfl,
    d true 0 2 rfl rfl, ↓reduceIte, Bool.false_eq_true, List.append_nil, List.nil_append]
  exact ⟨fragsOf_content pc 1 3 n hn cmd, fragsOf_content pc 0 2 n hn _⟩

theorem fileN_eq_bytes (pc n : Nat) (cmd : Bytes) (data : Option Bytes) :
    encodeMsgFileN pc n cmd data = encodeMsgN pc n cmd data := by
  cases data <;> simp [encodeMsgFileN, encodeMsgN, fragsOfFile, fragsOf, chunksFile_eq]

/-- **size bound, non-empty, context.** No P-DATA-TF is longer than the maximum length in force,
every fragment is non-empty and on the message's presentation context. -/
theorem frag_size (pc maxLen : Nat) (cmd : Bytes) (data : Option Bytes) (hm : usableMax maxLen) :
    ∀ f ∈ encodeMsg pc maxLen cmd data, f.pduLength ≤ effMax maxLen ∧ f.body ≠ [] ∧ f.pc = pc :=
  fragN_size pc _ maxLen cmd data (by have := fragSize_pos hm; omega)

/-- with a real limit (≠ 0) the bound is the limit itself -/
theorem frag_size_limit (pc maxLen : Nat) (cmd : Bytes) (data : Option Bytes) (hm : 7 ≤ maxLen) :
    ∀ f ∈ encodeMsg pc maxLen cmd data, f.pduLength ≤ maxLen := by
  intro f hf
  have : effMax maxLen = maxLen := if_neg (Nat.ne_of_gt (Nat.lt_of_lt_of_le (by decide) hm))
  exact this ▸ (frag_size pc maxLen cmd data (Or.inr hm) f hf).1

/-- **order and flags.** The stream is the command fragments followed by the data fragments; each
part, when non-empty, is a run of not-last fragments (control header 1 resp. 0) ended by exactly one
last fragment (3 resp. 2), which is the final one of its part. -/
theorem frag_shape (pc maxLen : Nat) (cmd : Bytes) (data : Option Bytes) (hm : usableMax maxLen)
    (hc : cmd ≠ []) :
    ∃ (ic : List Bytes) (lc : Bytes) (dpart : List Frag),
      encodeMsg pc maxLen cmd data = (ic.map (fun b => ⟨pc, 1, b⟩) ++ [⟨pc, 3, lc⟩]) ++ dpart ∧
      ic.flatten ++ lc = cmd ∧
      (match data with
       | none => dpart = []
       | some d => d = [] ∧ dpart = [] ∨
           ∃ (idt : List Bytes) (ld : Bytes),
             dpart = idt.map (fun b => ⟨pc, 0, b⟩) ++ [⟨pc, 2, ld⟩] ∧ idt.flatten ++ ld = d) :=
  fragN_shape pc _ cmd data (fragSize_pos hm) hc

/-- **content.** Concatenating the command fragments gives the command set, concatenating the data
fragments gives the data set, byte for byte. -/
theorem frag_content (pc maxLen : Nat) (cmd : Bytes) (data : Option Bytes) (hm : usableMax maxLen) :
    (((encodeMsg pc maxLen cmd data).filter (fun f => f.mch = 1 ∨ f.mch = 3)).map (·.body)).flatten = cmd ∧
    (((encodeMsg pc maxLen cmd data).filter (fun f => f.mch = 0 ∨ f.mch = 2)).map (·.body)).flatten
      = data.getD [] :=
  fragN_content pc _ cmd data (fragSize_pos hm)

/-- **file = bytes.** Supplying the data set as a seekable file (read, one-byte look-ahead, seek
back) produces exactly the same fragments as supplying it as bytes. -/
theorem file_eq_bytes (pc maxLen : Nat) (cmd : Bytes) (data : Option Bytes) :
    encodeMsgFile pc maxLen cmd data = encodeMsg pc maxLen cmd data :=
  fileN_eq_bytes pc _ cmd data

-- non-vacuity: maximum length 8 carries two bytes per fragment
example : usableMax 8 ∧ ([1, 2, 3] : Bytes) ≠ [] := by simp [usableMax]

end Dicom.C06
