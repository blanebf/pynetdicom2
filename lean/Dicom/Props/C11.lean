import Dicom.Model.Negotiation
import Dicom.Props.C09
/-! # C11 — requester: well-formed proposal, accepted contexts and service lookup agree -/
namespace Dicom.C11
open Dicom.Neg Dicom.C09

theorem nextId_addCall (d : List (Nat × Uid)) (l : List Uid) : nextId (addCall d l) = nextId d + 2 * l.length := by
  rcases List.eq_nil_or_concat l with rfl | ⟨l, a, rfl⟩
  · rw [addCall]; exact congrArg nextId (List.append_nil d)
  · rw [addCall, nextId, List.concat_eq_append, List.getLast?_append, List.getLast?_map, List.getLast?_zipIdx,
      List.getLast?_concat, List.length_append]
    -- the last entry is `a` at index `l.length`
    show nextId d + 2 * (0 + (l.length + 1) - 1) + 2 = nextId d + 2 * (l.length + 1)
    rw [Nat.zero_add, Nat.add_sub_cancel, Nat.mul_add, Nat.add_assoc]

theorem addCall_append (d : List (Nat × Uid)) (l c : List Uid) : addCall (addCall d l) c = addCall d (l ++ c) := by
  rw [addCall, nextId_addCall, addCall, addCall, List.zipIdx_append, List.map_append,
    List.zipIdx_eq_map_add (i := 0 + l.length), List.map_map, List.append_assoc]
  congr 2
  exact List.map_congr_left fun ci _ => by rw [Function.comp_apply, Nat.zero_add, Nat.mul_add, Nat.add_assoc]

/-- any sequence of add_scu / add_scp calls builds what a single call with all the classes would -/
theorem foldl_addCall (calls : List (List Uid)) (d : List (Nat × Uid)) :
    calls.foldl addCall d = addCall d calls.flatten := by
  induction calls generalizing d with
  | nil => exact (List.append_nil d).symm
  | cons c cs ih => rw [List.foldl_cons, ih, addCall_append, List.flatten_cons]

theorem addCalls_eq (calls : List (List Uid)) :
    addCalls calls = calls.flatten.zipIdx.map fun ci => (2 * ci.2 + 1, ci.1) :=
  (foldl_addCall calls []).trans <| List.map_congr_left fun _ _ => congrArg (·, _) (Nat.add_comm ..)

/-- each configured entry is proposed exactly once, in configuration order -/
theorem proposes_each_entry (calls : List (List Uid)) : (addCalls calls).map (·.2) = calls.flatten := by
  rw [addCalls_eq, List.map_map]; exact List.zipIdx_map_fst 0 _

/-- **presentation context ids**: whatever the sequence of add_scu / add_scp calls and the sizes of
their SOP-class lists, the k-th configured class (counting from 0) gets id 2k+1: ids are odd, distinct
and increasing, one per configured entry. -/
theorem ids_are_odd_sequence (calls : List (List Uid)) :
    (addCalls calls).map (·.1) = (List.range ((calls.map List.length).sum)).map (fun k => 2 * k + 1) := by
  rw [addCalls_eq, List.map_map, ← List.length_flatten, List.range_eq_range', ← List.zipIdx_map_snd 0,
    List.map_map]
  rfl

/-- up to 128 configured classes every id lies in 1..255 -/
theorem ids_in_byte_range (calls : List (List Uid)) (h : (calls.map List.length).sum ≤ 128) :
    ∀ id ∈ (addCalls calls).map (·.1), 1 ≤ id ∧ id ≤ 255 ∧ id % 2 = 1 := by
  intro id hid
  rw [ids_are_odd_sequence] at hid
  obtain ⟨k, hk, rfl⟩ := List.mem_map.1 hid
  have := Nat.lt_of_lt_of_le (List.mem_range.1 hk) h
  exact ⟨Nat.le_add_left _ _, by omega, Nat.mul_add_mod ..⟩

theorem ids_overflow_of_le (calls : List (List Uid)) (h : 129 ≤ (calls.map List.length).sum) :
    257 ∈ (addCalls calls).map (·.1) := by
  rw [ids_are_odd_sequence]
  exact List.mem_map.mpr ⟨128, List.mem_range.mpr h, rfl⟩

/-- **known finding D18**: the 129th configured class gets id 257, which does not fit the one-byte
field of the Presentation Context item -/
theorem ids_overflow (calls : List (List Uid)) (h : (calls.map List.length).sum = 129) :
    257 ∈ (addCalls calls).map (·.1) :=
  ids_overflow_of_le calls (Nat.le_of_eq h.symm)

/-- a lookup fails with the class-not-supported error unless the class is configured as SCU *and* some
context of that class was accepted -/
theorem get_scu_iff (u : Usable) (scu : List Uid) (cls : Uid) :
    (getScu u scu cls).isSome = true ↔ (cls ∈ scu ∧ ∃ e ∈ u.byClass, e.1 = cls) := by
  fun_cases getScu u scu cls with
  | case1 e hf hc =>
    exact ⟨fun _ => ⟨List.contains_iff_mem.mp hc, e, List.mem_of_find?_eq_some hf, by simpa using List.find?_some hf⟩,
      fun _ => rfl⟩
  | case2 e hf hc => exact ⟨nofun, fun h => absurd (List.contains_iff_mem.mpr h.1) hc⟩
  | case3 hf => exact ⟨nofun, fun ⟨_, e, he, hk⟩ => by simpa [hk] using List.find?_eq_none.mp hf e he⟩

/-- the lookup returns the id and transfer syntax recorded for that class -/
theorem get_scu_value (u : Usable) (scu : List Uid) (cls : Uid) (r : Nat × Uid)
    (h : getScu u scu cls = some r) : (cls, r) ∈ u.byClass := by
  revert h
  fun_cases getScu u scu cls with
  | case1 e hf hc =>
    rintro ⟨⟩
    have he : e.1 = cls := by simpa using List.find?_some hf
    exact he ▸ List.mem_of_find?_eq_some hf
  | case2 => nofun
  | case3 => nofun

/-- **usable = accepted among proposed, with the peer's transfer syntax**: for a reply whose contexts
all answer proposed ones (distinct ids), the contexts regarded as usable are exactly the ones answered
with result 0, each bound to the class it was proposed for and the transfer syntax the peer chose. -/
theorem usable_eq_accepted (proposed : List (Nat × Uid)) (reply : List PcAc) :
    ∀ (u : Usable), (reply.map (·.id)).Nodup → (∀ e ∈ u.byId, ∀ r ∈ reply, e.1 ≠ r.id) →
    (∀ r ∈ reply, r.result = 0 → (dictGet proposed r.id).isSome = true) →
    ∃ u', processAc proposed reply u = some u' ∧
      u'.byId = u.byId ++ (reply.filter (fun r => r.result = 0)).filterMap
        (fun r => (dictGet proposed r.id).map fun cls => (r.id, cls, r.ts)) := by
  intro u hnd hdis hprop
  have hf : Fresh (reply.map (·.id)) u.byId := ⟨hnd, fun e he => List.forall_mem_map.mpr (hdis e he)⟩
  clear hnd hdis
  fun_induction processAc proposed reply u with
  | case1 u => exact ⟨u, rfl, by simp⟩
  | case2 r rs u hr cls hg ih =>      -- accepted and proposed
    obtain ⟨u', h1, h2⟩ := ih (List.forall_mem_cons.mp hprop).2 hf.set.2
    exact ⟨u', h1, by simp [h2, hf.set.1, hr, hg]⟩
  | case3 r rs u hr hg => cases hg ▸ hprop r (.head _) hr      -- accepted but never proposed
  | case4 r rs u hr ih =>      -- not accepted
    obtain ⟨u', h1, h2⟩ := ih (List.forall_mem_cons.mp hprop).2 hf.skip
    exact ⟨u', h1, by simp [h2, hr]⟩

-- non-vacuity: two add calls, a reply accepting the first and third context
example : addCalls [[[10], [11]], [[12]]] = [(1, [10]), (3, [11]), (5, [12])] := by decide
example : (processAc [(1, [10]), (3, [11]), (5, [12])] [⟨1, 0, [9]⟩, ⟨3, 3, []⟩, ⟨5, 0, [8]⟩] {}).map (·.byId)
    = some [(1, [10], [9]), (5, [12], [8])] := by decide

/-- the request built from the context definition list: every entry proposed with the requester's
transfer syntaxes (`build_pres_context_def_list`) -/
def mkRequest (proposed : List (Nat × Uid)) (tss : List Uid) : List PcRq :=
  proposed.map fun e => ⟨e.1, e.2, tss⟩

theorem dictGet_mem {α : Type} {d : List (Nat × α)} (hnd : (d.map (·.1)).Nodup) {e : Nat × α} (he : e ∈ d) :
    dictGet d e.1 = some e.2 := by
  induction d with
  | nil => cases he
  | cons x xs ih =>
    obtain ⟨hx, hnd⟩ := List.nodup_cons.mp hnd
    rw [dictGet, List.find?_cons]
    rcases List.mem_cons.mp he with rfl | he
    · rw [beq_self_eq_true]; rfl
    · rw [beq_false_of_ne fun h => hx (List.mem_map.mpr ⟨e, he, h.symm⟩)]; exact ih hnd he

/-- the requester's reply processing and the acceptor's `accept` loop make the same assignments in the same
order, whatever the tables held before -/
theorem agreement (cfg : Cfg) (proposed : List (Nat × Uid)) (rqs : List PcRq)
    (hget : ∀ c ∈ rqs, dictGet proposed c.id = some c.abs) (u : Usable) :
    ∃ u', processAc proposed (rqs.map (answer cfg)) u = some u' ∧ u'.byId = acceptTable cfg rqs u.byId := by
  induction rqs generalizing u with
  | nil => exact ⟨u, rfl, rfl⟩
  | cons c cs ih =>
    obtain ⟨hc, hcs⟩ := List.forall_mem_cons.mp hget
    have ih := ih hcs
    rw [List.map_cons, processAc, acceptTable, answer_id, hc]
    by_cases hr : (answer cfg c).result = 0
    · rw [if_pos hr, hr]; exact ih _
    · rw [if_neg hr]; split
      · contradiction
      · exact ih u

/-- **both ends agree.**  The requester proposes its context definition list, the acceptor answers it
(`accept`), the requester processes the answer (`processAc`): the table of usable contexts the requester
ends up with — id, abstract syntax, transfer syntax — is exactly the table of contexts the acceptor serves. -/
theorem negotiation_agreement (cfg : Cfg) (proposed : List (Nat × Uid)) (tss : List Uid)
    (hnd : (proposed.map (·.1)).Nodup) :
    ∃ u, processAc proposed (accept cfg (mkRequest proposed tss)).1 {} = some u ∧
      u.byId = (accept cfg (mkRequest proposed tss)).2 := by
  refine agreement cfg proposed _ (fun c hc => ?_) {}
  obtain ⟨e, he, rfl⟩ := List.mem_map.mp hc
  exact dictGet_mem hnd he

-- non-vacuity: a proposal of which the acceptor serves the first class with the second transfer syntax
example : (accept ⟨[[10]], [[21]]⟩ (mkRequest [(1, [10]), (3, [11])] [[20], [21]])).2 = [(1, [10], [21])] := by decide

end Dicom.C11
