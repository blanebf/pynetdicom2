import Dicom.Proofs.Services
/-! # C16 — C-FIND returns exactly the matches the SCP produced, in order, then stops -/
namespace Dicom.C16
open Dicom.Svc

/-- **C16.** For any sequence of matches with pending statuses (either pending code, any mix, any
length, including none), what the query user yields from the provider's responses is exactly those
data sets with exactly those statuses, in order, followed by one final non-pending response — after
which iteration ends. -/
theorem find_exact (rq : Rq) (ctx : Nat) (ms : List (Bytes × Nat)) (h : ∀ m ∈ ms, isFindPending m.2 = true) :
    findScu (findScp rq ctx ms) = ms.map (fun m => (some m.1, m.2)) ++ [(none, SUCCESS)] := by
  rw [findScp, findScu_pending_final _ (List.forall_mem_map.mpr h) _ rfl, List.map_map]; rfl

/-- iteration stops at the first non-pending response whatever follows it -/
theorem stops_at_final (r : Rsp) (rest : List Rsp) (h : isFindPending r.status = false) :
    findScu (r :: rest) = [(r.ds, r.status)] :=
  findScu_pending_final [] (List.forall_mem_nil _) r h rest

/-- every response of the provider is on the request's context, correlates with it and is a C-FIND-RSP -/
theorem find_rsp_correlates (rq : Rq) (ctx : Nat) (ms : List (Bytes × Nat)) :
    ∀ r ∈ findScp rq ctx ms, r.ctx = ctx ∧ r.msgIdRsp = rq.msgId ∧ r.sopClass = rq.sopClass ∧ r.kind = 0x8020 := by
  intro r hr
  simp only [findScp, List.mem_append, List.mem_map, List.mem_singleton] at hr
  rcases hr with ⟨m, _, rfl⟩ | rfl <;> exact ⟨rfl, rfl, rfl, rfl⟩

example : isFindPending 0xFF00 = true ∧ isFindPending 0xFF01 = true ∧ isFindPending 0 = false := by decide

end Dicom.C16
