import Dicom.Model.Negotiation
/-! # C09 — the acceptor answers every proposed presentation context correctly -/
namespace Dicom.C09
open Dicom.Neg

theorem firstSupported_some {cfg : Cfg} {l : List Uid} {t : Uid} (h : firstSupported cfg l = some t) :
    t ∈ l ∧ t ∈ cfg.ts :=
  ⟨List.mem_of_find?_eq_some h, by simpa using List.find?_some h⟩

theorem firstSupported_none {cfg : Cfg} {l : List Uid} (h : firstSupported cfg l = none) : ¬ ∃ t ∈ l, t ∈ cfg.ts :=
  fun ⟨t, ht, hs⟩ => List.find?_eq_none.mp h t ht (List.contains_iff_mem.mpr hs)

theorem answer_id (cfg : Cfg) (c : PcRq) : (answer cfg c).id = c.id := by
  fun_cases answer cfg c <;> rfl

/-- **accepted iff served and a common transfer syntax exists** -/
theorem accepted_iff (cfg : Cfg) (c : PcRq) :
    (answer cfg c).result = 0 ↔ (c.abs ∈ cfg.scp ∧ ∃ t ∈ c.ts, t ∈ cfg.ts) := by
  fun_cases answer cfg c with
  | case1 hs t hf => exact ⟨fun _ => ⟨List.contains_iff_mem.mp hs, t, firstSupported_some hf⟩, fun _ => rfl⟩
  | case2 hs hf => exact ⟨nofun, fun h => absurd h.2 (firstSupported_none hf)⟩
  | case3 hs => exact ⟨nofun, fun h => absurd (List.contains_iff_mem.mpr h.1) hs⟩

/-- **the transfer syntax returned was proposed for that context and is supported** -/
theorem ts_is_proposed_and_supported (cfg : Cfg) (c : PcRq) (h : (answer cfg c).result = 0) :
    (answer cfg c).ts ∈ c.ts ∧ (answer cfg c).ts ∈ cfg.ts := by
  revert h
  fun_cases answer cfg c with
  | case1 hs t hf => exact fun _ => firstSupported_some hf
  | case2 => nofun
  | case3 => nofun

/-- **once each, same id, proposed order** -/
theorem answers_each_once_in_order (cfg : Cfg) (cs : List PcRq) :
    (accept cfg cs).1.map (·.id) = cs.map (·.id) := by
  rw [accept, List.map_map]; exact List.map_congr_left fun c _ => answer_id cfg c

/-- The situation both table-building loops run in (`acceptTable` here, `processAc` in C11): the keys still to
be assigned are distinct and none is in the dict yet, so every assignment appends. -/
def Fresh {α : Type} (keys : List Nat) (d : List (Nat × α)) : Prop := keys.Nodup ∧ ∀ e ∈ d, ∀ k ∈ keys, e.1 ≠ k

theorem Fresh.skip {α : Type} {k : Nat} {ks : List Nat} {d : List (Nat × α)} (h : Fresh (k :: ks) d) : Fresh ks d :=
  ⟨(List.nodup_cons.mp h.1).2, fun e he k' hk' => h.2 e he k' (.tail _ hk')⟩

theorem Fresh.set {α : Type} {k : Nat} {ks : List Nat} {d : List (Nat × α)} {v : α} (h : Fresh (k :: ks) d) :
    dictSet d k v = d ++ [(k, v)] ∧ Fresh ks (dictSet d k v) := by
  have heq : dictSet d k v = d ++ [(k, v)] := if_neg fun ha =>
    have ⟨e, he, hk⟩ := List.any_eq_true.mp ha
    h.2 e he k (.head _) (beq_iff_eq.mp hk)
  refine ⟨heq, h.skip.1, ?_⟩
  rw [heq]
  exact List.forall_mem_append.mpr ⟨h.skip.2, List.forall_mem_singleton.mpr fun k' hk' (hkk : k = k') =>
    (List.nodup_cons.mp h.1).1 (hkk ▸ hk')⟩

theorem acceptTable_eq (cfg : Cfg) (cs : List PcRq) (d : List (Nat × Uid × Uid)) (h : Fresh (cs.map (·.id)) d) :
    acceptTable cfg cs d = d ++ (cs.filter (fun c => (answer cfg c).result = 0)).map
      (fun c => (c.id, c.abs, (answer cfg c).ts)) := by
  fun_induction acceptTable cfg cs d with
  | case1 => simp
  | case2 c cs d hr ih => rw [ih h.set.2, h.set.1]; simp [hr]
  | case3 c cs d hr ih => rw [ih h.skip]; simp [show ¬ (answer cfg c).result = 0 from hr]

/-- **the contexts served are exactly those reported as accepted, with the same transfer syntax**
(distinct context ids, as PS3.8 requires of a request) -/
theorem served_eq_reported (cfg : Cfg) (cs : List PcRq) (hnd : (cs.map (·.id)).Nodup) :
    (accept cfg cs).2 = ((accept cfg cs).1.zip cs |>.filter (fun rc => rc.1.result = 0)).map
      (fun rc => (rc.1.id, rc.2.abs, rc.1.ts)) := by
  -- zipping the answers with the requests and then filtering is filtering the requests by their answer
  have hz : (cs.map (answer cfg)).zip cs = cs.map fun c => (answer cfg c, c) := by
    simpa using List.zip_map' (f := answer cfg) (g := id) (l := cs)
  simp [accept, acceptTable_eq cfg cs [] ⟨hnd, List.forall_mem_nil _⟩, hz, List.filter_map, Function.comp_def, answer_id]

-- non-vacuity: two contexts, the second without a common transfer syntax
example : (accept ⟨[[1], [2]], [[9]]⟩ [⟨1, [1], [[8], [9]]⟩, ⟨3, [2], [[8]]⟩]).1 = [⟨1, 0, [9]⟩, ⟨3, 1, []⟩]
    ∧ (accept ⟨[[1], [2]], [[9]]⟩ [⟨1, [1], [[8], [9]]⟩, ⟨3, [2], [[8]]⟩]).2 = [(1, [1], [9])] := by decide

end Dicom.C09
