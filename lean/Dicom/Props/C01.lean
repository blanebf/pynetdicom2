import Dicom.Proofs.PduDecode
/-! # C01 — PDU encode/decode round trip for every PDU, item and sub-item

`Pdu.enc` mirrors `encode()` and `decodePdu` mirrors `decode()` of `pdu.py`/`userdataitems.py`
(stream reads that may come up short, one-byte look-ahead, ignored length fields).  `Pdu.WF` says the
value can be built from the public classes with in-range fields: integers in their wire range, text
ASCII, AE titles ≤ 16 bytes without NUL at either end, UIDs without white space at either end,
generic sub-items with a type code the library does not interpret, User Information (if present) as
the last variable item. -/
namespace Dicom.C01

/-- **C01.** Every well-formed PDU — all seven types, any list of variable items, any list and
order of user-information sub-items, any payloads — decodes from its encoding to itself. -/
theorem decode_encode (p : Pdu) (h : p.WF) : decodePdu p.enc = some p := decodePdu_enc p h

/-- re-encoding the decoded PDU reproduces the original bytes exactly -/
theorem reencode (p : Pdu) (h : p.WF) : (decodePdu p.enc).map Pdu.enc = some p.enc := by
  rw [decode_encode p h]; rfl

/-- **every ordered adjacency of sub-item kinds**: any sequence of well-formed user-information
sub-items, of any kinds in any order and of any length, decodes to exactly that sequence (the
stream ending, or continuing with a zero byte, after it) -/
theorem subitems_any_order (l : List SubItem) (h : ∀ s ∈ l, s.WF) (rest : Bytes)
    (hr : rest = [] ∨ ∃ r, rest = 0 :: r) :
    decSubs (l.length + 1) (encSubs l ++ rest) = some (l, rest) :=
  decSubs_enc l h rest hr (l.length + 1) (Nat.lt_succ_self _)

/-- several PDVs per P-DATA-TF, payloads of any size including empty -/
theorem pdata_roundtrip (rsv : Nat) (pdvs : List Pdv) (h : (Pdu.pdata rsv pdvs).WF) :
    decodePdu (Pdu.pdata rsv pdvs).enc = some (.pdata rsv pdvs) := decode_encode _ h

-- non-vacuity: an A-ASSOCIATE-RQ with a presentation context and three sub-items (ExtNeg in the middle)
def sampleRq : Pdu := .rq {
  rsv1 := 0, protoVer := 1, rsv2 := 0, called := [65, 66], calling := [67],
  rsv3 := [0, 0, 0, 0, 0, 0, 0, 0],
  items := [.appCtx 0 [49, 46, 50], .pcRq 0 1 0 0 0 0 [49, 46, 50] [⟨0, [49, 46, 50, 46, 51]⟩],
            .userInfo 0 [.maxLen 0 4 16384, .extNeg 0 [49, 46, 50] [1, 2], .implVersion 0 [86, 49]]] }

example : sampleRq.WF := by
  -- `simp` walks the structure and evaluates the numeric bounds (with them one `decide` would exceed the size limit
  -- of instance synthesis); the cases of `SubItem.WF` and the quantifiers over bytes are left to `decide`
  simp only [sampleRq, Pdu.WF, Assoc.WF, itemsOk, Item.WF, Item.isUserInfo, TsSub.WF, List.forall_mem_cons,
    List.not_mem_nil, false_imp_iff, implies_true, Nat.reduceLT, true_and, and_true]
  unfold SubItem.WF
  simp only [titleOk, uidOk, trimmed, ascii]
  decide

example : (Pdu.pdata 0 [⟨1, []⟩, ⟨3, [3, 1, 2]⟩]).WF := by
  simp only [Pdu.WF, Pdv.WF, List.forall_mem_cons, List.not_mem_nil, false_imp_iff, implies_true]
  decide

end Dicom.C01
