import Dicom.Spec.StatusSpec
import Dicom.Generated.Statuses
/-! # C18 — status codes are classified totally and consistently

`Dicom.Generated.statusRuns` is regenerated on every run by evaluating the real
`Status(code, command)` for all 65 536 codes and every command class (and no class).  The theorems
below are re-checked by the kernel against that table; they speak about **every** code below 65 536,
lifted from decidable checks on the run lists by `find_total` / `admitted_of_compat` (no
enumeration of codes in Lean). -/
namespace Dicom.C18
open Dicom.StatusSpec Dicom.Generated

abbrev Run := Nat × Nat × Kind

/-- lookup of a code in a run list -/
def findRun : List Run → Nat → Option Kind
  | [], _ => none
  | (lo, hi, k) :: rs, c => if lo ≤ c ∧ c ≤ hi then some k else findRun rs c

/-- what the running code answers for `Status(code, command with field cf)` (cf = 0: no command) -/
def classify (cf code : Nat) : Option Kind :=
  match statusRuns.lookup cf with
  | some rs => findRun rs code
  | none => none

/-- runs are contiguous from `lo` and end at 65535 -/
def contig {α : Type} : Nat → List (Nat × Nat × α) → Bool
  | lo, [] => lo == 65536
  | lo, (a, b, _) :: rs => a == lo && a ≤ b && contig (b + 1) rs

/-- every implementation run that overlaps a spec run carries a classification the spec admits -/
def compat (g : List Run) (s : List SRun) : Bool :=
  g.all fun r => s.all fun q => (r.2.1 < q.1 || q.2.1 < r.1) || q.2.2.contains r.2.2

/-- a lookup in contiguous runs finds the run the code lies in; `find` is `findRun` or the specification's `findS`,
which differ only in what a run carries -/
theorem find_total {α : Type} (find : List (Nat × Nat × α) → Nat → Option α)
    (hcons : ∀ {lo hi k rs c}, find ((lo, hi, k) :: rs) c = if lo ≤ c ∧ c ≤ hi then some k else find rs c)
    {rs : List (Nat × Nat × α)} {lo c : Nat} (h2 : c < 65536) (h : contig lo rs = true) (h1 : lo ≤ c) :
      ∃ r ∈ rs, find rs c = some r.2.2 ∧ r.1 ≤ c ∧ c ≤ r.2.1 := by
  fun_induction contig lo rs with
  | case1 => cases beq_iff_eq.1 h; exact absurd h1 (Nat.not_le.2 h2)
  | case2 lo a b k rs ih =>
    simp only [Bool.and_eq_true, beq_iff_eq, decide_eq_true_eq] at h
    obtain ⟨⟨rfl, _⟩, hr⟩ := h
    rw [hcons]
    by_cases hc : c ≤ b
    · exact ⟨_, .head _, if_pos ⟨h1, hc⟩, h1, hc⟩
    · obtain ⟨r', hr', hk, hh⟩ := ih hr (Nat.not_le.1 hc)
      exact ⟨r', .tail _ hr', (if_neg fun h => hc h.2).trans hk, hh⟩

theorem admitted_of_compat {g : List Run} {s : List SRun} (h : compat g s = true)
    {r : Run} (hr : r ∈ g) {q : SRun} (hq : q ∈ s) {c : Nat}
    (h1 : r.1 ≤ c ∧ c ≤ r.2.1) (h2 : q.1 ≤ c ∧ c ≤ q.2.1) : r.2.2 ∈ q.2.2 := by
  have := List.all_eq_true.mp (List.all_eq_true.mp h r hr) q hq
  simp only [Bool.or_eq_true, decide_eq_true_eq, List.contains_iff_mem] at this
  -- both runs hold `c`, so neither ends before the other begins
  exact this.resolve_left fun h =>
    h.elim (Nat.not_lt.2 (Nat.le_trans h2.1 h1.2)) (Nat.not_lt.2 (Nat.le_trans h1.1 h2.2))

/-- the 23 command fields of PS3.7 (§9.3, §10.3, Annex E.1) and 0 for "no command" -/
def commandFields : List Nat :=
  [0, 0x0001, 0x0010, 0x0020, 0x0021, 0x0030, 0x0100, 0x0110, 0x0120, 0x0130, 0x0140, 0x0150, 0x0FFF,
   0x8001, 0x8010, 0x8020, 0x8021, 0x8030, 0x8100, 0x8110, 0x8120, 0x8130, 0x8140, 0x8150]

/-- the table covers exactly the PS3.7 commands (and "no command") -/
theorem commands_complete : statusRuns.map (·.1) = commandFields := by decide

/-- the run-level checks of one command's table: it covers 0..65535 without gap or overlap, so does the
specification's, and every run carries a classification the specification admits wherever they overlap -/
def tableOk (cf : Nat) : Bool :=
  (statusRuns.lookup cf).any fun rs => contig 0 rs && contig 0 (specRuns cf) && compat rs (specRuns cf)

/-- The one sweep over the regenerated table, so the one evaluation left to the kernel alone (`+kernel`): the
elaborator's own run of it costs three times the kernel's and proves nothing.  The other closed facts of this
file are small and go by plain `decide`. -/
theorem table_ok : ∀ cf ∈ commandFields, tableOk cf = true := by decide +kernel

theorem spec_kinds : ∀ cf ∈ commandFields, ∀ q ∈ specRuns cf, ∀ k ∈ q.2.2,
    k ≠ Kind.other ∧ k ≠ Kind.badInt := by decide

/-- **C18.** For every command class (and none) and every 16-bit code the running code returns
exactly one classification, it is one of success / pending / warning / cancel / failure (exactly one
`is_*` flag set — anything else is tabulated as `other`), `int(status)` is the code (else `badInt`),
and the classification is one the standard admits for that service: 0000 success, the pending codes
pending, the service-specific ranges with their service's class, unknown codes failure. -/
theorem status_classification (cf code : Nat) (hcf : cf ∈ commandFields) (hc : code < 65536) :
    ∃ k, classify cf code = some k ∧ k ∈ allowed cf code ∧ k ≠ Kind.other ∧ k ≠ Kind.badInt := by
  obtain ⟨rs, hrs, hok⟩ := (Option.any_eq_true ..).mp (table_ok cf hcf)
  simp only [Bool.and_eq_true] at hok
  obtain ⟨⟨himpl, hspec⟩, hcompat⟩ := hok
  obtain ⟨r, hr, hk, hr12⟩ := find_total findRun rfl hc himpl (Nat.zero_le _)
  obtain ⟨q, hq, hks, hq12⟩ := find_total findS rfl hc hspec (Nat.zero_le _)
  have hadm := admitted_of_compat hcompat hr hq hr12 hq12
  rw [classify, hrs]
  exact ⟨_, hk, by rw [allowed, hks]; exact hadm, spec_kinds cf hcf q hq _ hadm⟩

theorem classify_of_singleton {cf code : Nat} {k : Kind} (hcf : cf ∈ commandFields) (hc : code < 65536)
    (hu : allowed cf code = [k]) : classify cf code = some k := by
  obtain ⟨k', hk, hin, _⟩ := status_classification cf code hcf hc
  rw [hu, List.mem_singleton] at hin
  rw [hk, hin]

theorem zero_is_success (cf : Nat) (hcf : cf ∈ commandFields) : classify cf 0 = some Kind.success :=
  classify_of_singleton hcf (by decide) ((by decide : ∀ c ∈ commandFields, allowed c 0 = [Kind.success]) cf hcf)

/-- the pending codes of C-FIND (FF00, FF01), C-GET (FF00) and C-MOVE (FF00) are pending -/
theorem pending_codes :
    classify 0x8020 0xFF00 = some Kind.pending ∧ classify 0x8020 0xFF01 = some Kind.pending ∧
    classify 0x8010 0xFF00 = some Kind.pending ∧ classify 0x8021 0xFF00 = some Kind.pending := by decide

/-- a code the standard does not define for the service is a failure: e.g. every code from 0x0117 to
0xA6FF for C-STORE, every code of 0xFF02..0xFFFF for C-FIND, and every non-zero code outside
{0001, 0107, 0116} when no service-specific table applies -/
theorem unknown_is_failure (cf code : Nat) (hcf : cf ∈ commandFields) (hc : code < 65536)
    (hu : allowed cf code = [Kind.failure]) : classify cf code = some Kind.failure :=
  classify_of_singleton hcf hc hu

/-- service-specific entries win over the general table: B000 is a warning for C-STORE, C-GET and
C-MOVE while it is an (unknown) failure for C-FIND and C-ECHO -/
example : classify 0x8001 0xB000 = some .warning ∧ classify 0x8010 0xB000 = some .warning ∧
    classify 0x8021 0xB000 = some .warning ∧ classify 0x8020 0xB000 = some .failure ∧
    classify 0x8030 0xB000 = some .failure ∧ classify 0x8001 0xC123 = some .failure := by decide

-- non-vacuity of `unknown_is_failure`
example : allowed 0x8001 0x1234 = [Kind.failure] ∧ (0x8001 ∈ commandFields) := by decide

end Dicom.C18
