import Dicom.Proofs.Loop
/-! # C20 — concurrent associations on one application entity are isolated (model level)

A world of associations over one immutable configuration: each scheduler step advances exactly one
association.  Non-interference is then a theorem about the product system; its content for the code is
the claim that the code *is* such a product — no mutable state shared between associations — which is
what the threaded soak in the harness tests. -/
namespace Dicom.C20
open Dicom.Prov

/-- one scheduler step: association `i` performs one pass with tick `t`; the others do not move -/
def stepW (w : List P) (it : Nat × Tick) : List P := w.modify it.1 (fun p => (iter p it.2).1)

def runW (w : List P) (σ : List (Nat × Tick)) : List P := σ.foldl stepW w

/-- the ticks addressed to association `i`, in order -/
def project (σ : List (Nat × Tick)) (i : Nat) : List Tick := (σ.filter (fun it => it.1 = i)).map (·.2)

theorem project_cons (it : Nat × Tick) (σ : List (Nat × Tick)) (i : Nat) :
    project (it :: σ) i = if it.1 = i then it.2 :: project σ i else project σ i := by
  by_cases h : it.1 = i <;> simp [project, h]

theorem project_append (σ τ : List (Nat × Tick)) (i : Nat) : project (σ ++ τ) i = project σ i ++ project τ i := by
  simp [project]

theorem project_other {i j : Nat} (hij : i ≠ j) (ts : List Tick) : project (ts.map fun t => (j, t)) i = [] := by
  simp [project, hij.symm]

theorem run_append (p : P) (a b : List Tick) : (run p (a ++ b)).1 = (run (run p a).1 b).1 := by
  rw [Prov.run_append]

/-- **non-interference**: whatever the interleaving of the associations' steps, the state of association
`i` is what it would be had it run alone with its own ticks -/
theorem noninterference (σ : List (Nat × Tick)) : ∀ (w : List P) (i : Nat),
    (runW w σ)[i]? = (w[i]?).map (fun p => (run p (project σ i)).1) := by
  induction σ with
  | nil => intro w i; simp [runW, project, run]
  | cons it rest ih =>
    intro w i
    rw [show runW w (it :: rest) = runW (stepW w it) rest from rfl, ih, stepW, project_cons]
    by_cases hi : it.1 = i
    · subst hi; rw [List.getElem?_modify_eq, if_pos rfl]; cases w[it.1]? <;> rfl
    · rw [List.getElem?_modify_ne _ _ hi, if_neg hi]

/-- **failure is local**: an association that crashes (or is aborted) changes nothing in another one -/
theorem failure_is_local (σ : List (Nat × Tick)) (w : List P) (i j : Nat) (hij : i ≠ j) (extra : List Tick) :
    (runW w (σ ++ extra.map (fun t => (j, t))))[i]? = (runW w σ)[i]? := by
  rw [noninterference, noninterference, project_append, project_other hij, List.append_nil]

/-- the thread-local counter of `_new_msg_id` (the convenience API's message ids): absent before the first call -/
def newMsgId : Option Nat → Nat × Option Nat
  | none => (1, some 1)
  | some k => (k + 1, some (k + 1))

def callIds : Nat → Option Nat → List Nat
  | 0, _ => []
  | n + 1, s => (newMsgId s).1 :: callIds n (newMsgId s).2

theorem callIds_from (n : Nat) : ∀ k, callIds n (some k) = (List.range n).map (fun i => k + 1 + i) := by
  induction n with
  | zero => intro k; rfl
  | succ n ih =>
    intro k
    simp only [callIds, newMsgId, ih, List.range_succ_eq_map, List.map_cons, List.map_map]
    congr 1
    exact List.map_congr_left fun i _ => show k + 1 + 1 + i = k + 1 + (i + 1) by omega

/-- **message ids are unique within a thread**: the k-th call in a thread returns k -/
theorem msg_ids_unique (n : Nat) : callIds n none = (List.range n).map (· + 1) := by
  -- the absent counter behaves as a counter at 0
  have h0 : callIds n none = callIds n (some 0) := by cases n <;> rfl
  rw [h0, callIds_from]
  exact List.map_congr_left fun i _ => by omega

/-- ... hence no id is handed out twice in a thread, however many are drawn -/
theorem msg_ids_nodup (n : Nat) : (callIds n none).Nodup := by
  rw [msg_ids_unique, List.nodup_iff_pairwise_ne, List.pairwise_map]
  exact List.Pairwise.imp (fun h => by omega) (List.nodup_iff_pairwise_ne.mp List.nodup_range)

end Dicom.C20
