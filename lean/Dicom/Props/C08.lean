import Dicom.Proofs.CmdSet
import Dicom.Proofs.Dimse
import Dicom.Spec.CommandFields
import Dicom.Generated.MessageClasses
/-! # C08 — transmitted command sets are well formed (group length, order, type, data-set flag) -/
namespace Dicom.C08

/-- **Ascending tag order.** The elements are written in strictly ascending tag order. -/
theorem ascending_tags (es : List Elem) (hnd : (es.map (·.tag)).Nodup) :
    List.Pairwise (· < ·) (((setLength es).mergeSort leTag).map (·.tag)) :=
  sorted_tags _ (by rw [setLength_eq, setElem_tags]; exact hnd)

/-- **Command Group Length is exact.** After `set_length`, what pydicom writes starts with the
(0000,0000) element and its UL value is exactly the number of bytes that follow it — for any command
set that contains the element and has one element per tag, whatever the insertion order and whatever
value the element held before (so: on every send of the same object). -/
theorem group_length_exact (es : List Elem) (hgl : ∃ e ∈ es, e.tag = 0) (hnd : (es.map (·.tag)).Nodup) :
    ∃ rest, encodeCmd (setLength es) = (glElem (lengthOfOthers es)).enc ++ rest ∧
      rest.length = lengthOfOthers es := by
  obtain ⟨e, he, h0⟩ := hgl
  have hmem : glElem (lengthOfOthers es) ∈ (setLength es).mergeSort leTag :=
    (List.mergeSort_perm _ leTag).symm.subset (List.mem_map.mpr ⟨e, he, by simp [h0]⟩)
  -- sorted, the element of tag 0 comes first, and the others are exactly the rest
  obtain ⟨xs, hs, hxs⟩ := head_of_tag_zero (ascending_tags es hnd) hmem rfl
  refine ⟨(xs.map Elem.enc).flatten, by simp [encodeCmd, hs], ?_⟩
  calc ((xs.map Elem.enc).flatten).length
    _ = lengthOfOthers (glElem (lengthOfOthers es) :: xs) := by
      rw [length_flatten_map _ _ xs fun _ _ => rfl, lengthOfOthers, List.filter_cons_of_neg (by simp [glElem]),
        List.filter_eq_self.mpr (by simpa using hxs)]
    _ = lengthOfOthers (setLength es) := by rw [← hs, lengthOfOthers_perm (List.mergeSort_perm _ leTag)]
    _ = lengthOfOthers es := lengthOfOthers_setLength es

/-- `strict_reader_reads` from the one hypothesis it needs -/
theorem readElems_setLength (es : List Elem) (hwf : ∀ e ∈ es, e.WF) :
    Spec.readElems ((encodeCmd (setLength es)).length + 1) (encodeCmd (setLength es))
      = some (((setLength es).mergeSort leTag).map fun e => (e.tag, e.value)) := by
  refine readElems_enc _ (fun e he => ?_) _ (Nat.lt_succ_of_le (length_le_flatten _ (fun _ => ⟨_, _, rfl⟩) _))
  obtain ⟨a, ha, rfl⟩ := List.mem_map.mp ((List.mergeSort_perm _ leTag).subset he)
  split
  · simp [Elem.WF, glElem]
  · exact hwf a ha

/-- **Readable by the strict PS3.5/PS3.7 reader.** The strict implicit-VR-little-endian reader
recovers from the transmitted bytes exactly the elements (tag and value) in ascending order. -/
theorem strict_reader_reads (es : List Elem) (hwf : ∀ e ∈ es, e.WF) (hgl : ∃ e ∈ es, e.tag = 0)
    (hlen : lengthOfOthers es < 4294967296) :
    Spec.readElems ((encodeCmd (setLength es)).length + 1) (encodeCmd (setLength es))
      = some (((setLength es).mergeSort leTag).map fun e => (e.tag, e.value)) :=
  readElems_setLength es hwf

def flagOk (m : Msg) : Prop := lookupTag m.elems dsTypeTag = some (dsTypeValue (hasData m.data))

/-- operations a caller may perform: any field except the two the library manages itself -/
def legalOp : MsgOp → Prop
  | .setField tag _ => tag ≠ dsTypeTag
  | .setData _ => True
  | .send _ maxLen => usableMax maxLen

/-- what holds of the object before every operation holds of everything it sends: `I` is kept by every
operation and implies `Q` of what a `send` transmits -/
theorem run_sent {I : Msg → Prop} {Q : Sent → Prop} {legal : MsgOp → Prop}
    (step : ∀ m op, I m → legal op → I (m.apply op).1)
    (sent : ∀ m pc maxLen, I m → legal (.send pc maxLen) → ∀ s ∈ (m.apply (.send pc maxLen)).2, Q s)
    (ops : List MsgOp) : ∀ (m : Msg), I m → (∀ op ∈ ops, legal op) → ∀ s ∈ (m.run ops).2, Q s := by
  induction ops with
  | nil => intro m _ _ s hs; cases hs
  | cons op ops ih =>
    intro m hm hl s hs
    obtain ⟨hop, hl'⟩ := List.forall_mem_cons.mp hl
    have hrest := ih _ (step m op hm hop) hl'
    cases op with
    | setField | setData => exact hrest s hs
    | send pc maxLen =>
      rcases List.mem_cons.mp hs with rfl | hs
      · exact sent m pc maxLen hm hop _ rfl
      · exact hrest s hs

theorem apply_flagOk (m : Msg) (op : MsgOp) (h : flagOk m) (hl : legalOp op) : flagOk (m.apply op).1 := by
  cases op with
  | setField tag v => exact (lookupTag_setElem_of_ne _ _ _ _ (Ne.symm hl)).trans h
  | setData d => exact lookupTag_setElem_self _ _ _ (by rw [h]; rfl)
  | send pc maxLen => exact (lookupTag_setElem_of_ne _ 0 _ _ (by decide)).trans h  -- `setLength_eq`

/-- **Data-set flag.** Along every history of field changes, data-set changes (set, replaced, removed,
set to empty) and sends of one message object, every transmitted command set says "no data set"
(0x0101) exactly when no data-set fragments follow it. -/
theorem dataset_flag_iff (ops : List MsgOp) : ∀ (m : Msg), flagOk m → (∀ op ∈ ops, legalOp op) →
    ∀ s ∈ (m.run ops).2,
      (lookupTag s.elems dsTypeTag = some (dsTypeValue false) ↔ s.dataFrags = []) := by
  refine run_sent apply_flagOk ?_ ops
  intro m pc maxLen hm hop s hs
  cases hs
  -- the element says `hasData m.data`, and fragments follow exactly when the data set is non-empty
  have hflag : lookupTag (setLength m.elems) dsTypeTag = some (dsTypeValue (hasData m.data)) :=
    apply_flagOk m (.send pc maxLen) hm hop
  rw [hflag]
  cases hd : m.data with
  | none => simp [hasData]
  -- the two values of the flag differ, and a non-empty data set gives at least one fragment
  | some d => cases d <;> simp [hasData, dsTypeValue, le16, fragsOf_eq_nil, Nat.ne_of_gt (fragSize_pos hop)]

/-- every send in such a history also has an exact group length and ascending tags (the history only
changes values, never the set of tags) — the statements above apply to `s.elems = setLength _`. -/
theorem resend_group_length (ops : List MsgOp) : ∀ (m : Msg),
    (∃ e ∈ m.elems, e.tag = 0) → (m.elems.map (·.tag)).Nodup →
    ∀ s ∈ (m.run ops).2, ∃ rest n, s.cmd = (glElem n).enc ++ rest ∧ rest.length = n := by
  intro m hgl hnd
  -- both hypotheses speak of the tags only, and no operation changes the tags
  refine run_sent (I := fun m => 0 ∈ m.elems.map (·.tag) ∧ (m.elems.map (·.tag)).Nodup) (legal := fun _ => True)
    (fun m op h _ => (Msg.apply_tags m op).symm ▸ h) ?_ ops m ⟨List.mem_map.mpr hgl, hnd⟩ (fun _ _ => trivial)
  intro m pc maxLen h _ s hs
  cases hs
  obtain ⟨rest, h1, h2⟩ := group_length_exact m.elems (List.mem_map.mp h.1) h.2
  exact ⟨rest, _, h1, h2⟩

/-- **Command Field identifies the message type.** For each of the 23 message classes of the running
code (regenerated on every run) the class attribute and the Command Field (0000,0100) element of a
freshly built message are the PS3.7 code of that message type, and a fresh message says "no data
set". -/
theorem command_field_is_type :
    Dicom.Generated.messageClasses =
      (Dicom.Spec.commandFieldTable.map fun e => (e.2, e.1, e.1, 0x0101)) := rfl

-- non-vacuity: a C-ECHO-RQ-like command set in insertion order 0100, 0800, 0000, 0002, 0110
example : (∃ e ∈ [(⟨0x100, [0x30, 0]⟩ : Elem), ⟨0x800, [1, 1]⟩, ⟨0, []⟩, ⟨2, [0x31, 0]⟩, ⟨0x110, [7, 0]⟩], e.tag = 0)
    ∧ ([(0x100 : Nat), 0x800, 0, 2, 0x110]).Nodup := by decide

end Dicom.C08
