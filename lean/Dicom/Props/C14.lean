import Dicom.Proofs.PduDecode
/-! # C14 — rejection, abort and release are reported faithfully to both sides

`handleErrors` mirrors `Association._handle_errors`; the wire fidelity is C01's round trip. The
end-to-end statements (what the *other* side raises, no service on a refused association, what the
requesting context manager puts on the wire when it is left) are checked on real threads. -/
namespace Dicom.C14

/-- what the receiving side raises for a PDU handed up by its provider -/
inductive Raised
  | released
  | aborted (source reason : Nat)
  | rejected (result source reason : Nat)
  | nothing
deriving DecidableEq, Repr

def handleErrors : Pdu → Raised
  | .rlrq _ _ => .released
  | .abort _ _ _ s r => .aborted s r
  | .rj _ _ res s r => .rejected res s r
  | _ => .nothing

theorem fidelity (p : Pdu) (h : p.WF) : (decodePdu p.enc).map handleErrors = some (handleErrors p) := by
  rw [decodePdu_enc p h]; rfl

/-- **rejection fidelity**: for every (result, source, reason) over the byte range, the A-ASSOCIATE-RJ
the acceptor encodes is decoded by the requestor into an error carrying exactly those three values -/
theorem reject_fidelity (res src rsn : Nat) (h1 : res < 256) (h2 : src < 256) (h3 : rsn < 256) :
    (decodePdu (Pdu.rj 0 0 res src rsn).enc).map handleErrors = some (.rejected res src rsn) :=
  fidelity _ ⟨by decide, by decide, h1, h2, h3⟩

/-- **abort fidelity**: source and reason of an A-ABORT survive the wire -/
theorem abort_fidelity (src rsn : Nat) (h1 : src < 256) (h2 : rsn < 256) :
    (decodePdu (Pdu.abort 0 0 0 src rsn).enc).map handleErrors = some (.aborted src rsn) :=
  fidelity _ ⟨by decide, by decide, by decide, h1, h2⟩

theorem release_is_release : (decodePdu (Pdu.rlrq 0 0).enc).map handleErrors = some .released :=
  fidelity _ ⟨by decide, by decide⟩

/-- the requesting context manager (`AEBase.request_association`): what it puts on the wire when left -/
inductive Exit | normal | error
deriving DecidableEq, Repr

inductive Wire | releaseRq | abort (source reason : Nat) | nothing
deriving DecidableEq, Repr

def onExit (established : Bool) : Exit → Wire
  | .normal => if established then .releaseRq else .nothing
  | .error => if established then .abort 0 0 else .nothing

/-- **leaving normally releases, leaving through an error aborts** (an established association) -/
theorem exit_releases_or_aborts : onExit true .normal = .releaseRq ∧ onExit true .error = .abort 0 0 := ⟨rfl, rfl⟩

/-- the acceptor's `handle`: a refused association never reaches the message loop -/
def acceptorServes (refused : Bool) : Bool := !refused
theorem no_service_on_refusal : acceptorServes true = false := rfl

end Dicom.C14
