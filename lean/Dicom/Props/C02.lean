import Dicom.Proofs.PduSound
import Dicom.Generated.Layouts
/-! # C02 — the wire format matches the PS3.8 / PS3.7 PDU layouts

`Spec.parsePdu` is a strict, length-driven reader written from the tables of PS3.8 §9.3 and PS3.7
Annex D: every length field delimits a slice that must exist and be consumed exactly, widths and type
codes are the standard's literals.  `WF₂` adds to C01's `WF` what the standard itself requires of an
emitted PDU: the two sub-items that store their item length carry 4, and an A-ASSOCIATE-RQ carries
request contexts, an A-ASSOCIATE-AC response contexts.

`spec_reads_impl` is `parsePdu_enc` (Proofs/PduSpec.lean); the converse (`conformant_decodes`) rests on
`parsePdu_sound` (Proofs/PduSound.lean). -/
namespace Dicom.C02
open Dicom.Spec

def assocOk (rq : Bool) (a : Assoc) : Prop := ∀ i ∈ a.items, i.strict ∧ i.fits rq

def WF₂ : Pdu → Prop
  | .rq a => a.WF ∧ assocOk true a
  | .ac a => a.WF ∧ assocOk false a
  | p => p.WF

theorem WF₂.wf_shape {p : Pdu} (h : WF₂ p) : p.WF ∧ p.Shape := by
  cases p with
  | rq | ac => exact h
  | _ => exact ⟨h, trivial⟩

/-- **C02 (emitted PDUs).** Every PDU the library emits, read strictly by the PS3.8/PS3.7 layouts, yields exactly
the field values of the PDU that was encoded (AE titles modulo their NUL padding). -/
theorem spec_reads_impl (p : Pdu) (h : WF₂ p) : (parsePdu p.enc).map unpadTitles = some p :=
  parsePdu_enc p h.wf_shape.1 h.wf_shape.2

/-- **self-reported length.** `total_length()` equals the number of bytes emitted. -/
theorem length_reported (p : Pdu) (h : WF₂ p) : p.enc.length = p.totalLength :=
  Pdu.enc_length p h.wf_shape.1 h.wf_shape.2

/-- the library decodes what the strict reader accepts of its own output to the same value
(composition with C01) -/
theorem impl_agrees_with_spec (p : Pdu) (h : WF₂ p) (hw : p.WF) :
    decodePdu p.enc = (parsePdu p.enc).map unpadTitles := by
  rw [spec_reads_impl p h, decodePdu_enc p hw]

/-- **layouts.** The `struct` formats and the item type codes of the running code (regenerated by
introspection on every run) are those of the standard's tables. -/
theorem layouts_are_standard : Dicom.Generated.layouts = [
    ("AAssociatePDUBase.header", ">B B I H H 16s 16s I I I I I I I I"), ("AAssociateRjPDU.format", ">B B I B B B B"),
    ("PDataTfPDU.header", ">B B I"), ("AReleasePDUBase.format", ">B B I I"), ("AAbortPDU.format", ">B B I B B B B"),
    ("ApplicationContextItem.header", ">B B H"), ("PresentationContextItemRQ.header", ">B B H B B B B"),
    ("PresentationContextItemAC.header", ">B B H B B B B"), ("AbstractSyntaxSubItem.header", ">B B H"),
    ("TransferSyntaxSubItem.header", ">B B H"), ("UserInformationItem.header", ">B B H"),
    ("PresentationDataValueItem.header", ">I B"), ("MaximumLengthSubItem.item_format", ">B B H I"),
    ("ImplementationClassUIDSubItem.header", ">B B H"), ("ImplementationVersionNameSubItem.header", ">B B H"),
    ("AsynchronousOperationsWindowSubItem.item_format", ">B B H H H"), ("ScpScuRoleSelectionSubItem.header", ">B B H H"),
    ("SOPClassExtendedNegotiationSubItem.header", ">B B H H"), ("UserIdentityNegotiationSubItem.header", ">B B H B B H"),
    ("UserIdentityNegotiationSubItemAc.header", ">B B H H"), ("GenericUserDataSubItem.header", ">B B H")] ∧
  Dicom.Generated.typeCodes = [
    ("AAssociateRqPDU", 1), ("AAssociateAcPDU", 2), ("AAssociateRjPDU", 3), ("PDataTfPDU", 4), ("AReleaseRqPDU", 5),
    ("AReleaseRpPDU", 6), ("AAbortPDU", 7), ("ApplicationContextItem", 0x10), ("PresentationContextItemRQ", 0x20),
    ("PresentationContextItemAC", 0x21), ("AbstractSyntaxSubItem", 0x30), ("TransferSyntaxSubItem", 0x40),
    ("UserInformationItem", 0x50), ("MaximumLengthSubItem", 0x51), ("ImplementationClassUIDSubItem", 0x52),
    ("AsynchronousOperationsWindowSubItem", 0x53), ("ScpScuRoleSelectionSubItem", 0x54),
    ("ImplementationVersionNameSubItem", 0x55), ("SOPClassExtendedNegotiationSubItem", 0x56),
    ("UserIdentityNegotiationSubItem", 0x58), ("UserIdentityNegotiationSubItemAc", 0x59)] ∧
  Dicom.Generated.subItemDispatch = [(0x51, "MaximumLengthSubItem"), (0x52, "ImplementationClassUIDSubItem"),
    (0x53, "AsynchronousOperationsWindowSubItem"), (0x54, "ScpScuRoleSelectionSubItem"),
    (0x55, "ImplementationVersionNameSubItem"), (0x56, "SOPClassExtendedNegotiationSubItem"),
    (0x58, "UserIdentityNegotiationSubItem"), (0x59, "UserIdentityNegotiationSubItemAc")] := ⟨rfl, rfl, rfl⟩

/-- **C02 (converse).** Any byte sequence the strict PS3.8/PS3.7 reader accepts — items and sub-items in
any order, sub-item types the library does not know, any number of transfer syntaxes and PDVs — whose
text is conformant (`Pdu.Conf`: AE titles ASCII and padded on the right only, UIDs ASCII without white
space at the ends, names ASCII, User Identity fields well-formed UTF-8, no sub-item of type 0, User
Information last) is decoded by the library
to exactly the field values the strict reader yields (AE titles without their padding). -/
theorem conformant_decodes (b : Bytes) (v : Pdu) (hp : parsePdu b = some v) (hc : v.Conf) :
    decodePdu b = some (unpadTitles v) := by
  rw [← (parsePdu_sound hp).1, ← v.enc_unpadTitles hc]
  exact decodePdu_enc _ ((parsePdu_sound hp).2.2 hc)

/-- the strict reader accepts nothing but encodings: what it reads, written back field by field with
the lengths recomputed, is the input -/
theorem strict_reader_accepts_only_encodings (b : Bytes) (v : Pdu) (hp : parsePdu b = some v) :
    v.encRaw = b ∧ v.Shape :=
  ⟨(parsePdu_sound hp).1, (parsePdu_sound hp).2.1⟩

/-- two byte sequences read strictly to the same values are the same bytes: the layout leaves no slack -/
theorem strict_reader_injective (b₁ b₂ : Bytes) (v : Pdu) (h₁ : parsePdu b₁ = some v) (h₂ : parsePdu b₂ = some v) :
    b₁ = b₂ := by
  rw [← (parsePdu_sound h₁).1, ← (parsePdu_sound h₂).1]

/-- non-vacuity: an A-ASSOCIATE-RQ the library would never emit itself — presentation context before
the application context, two transfer syntaxes, an unknown sub-item (type 0x77) before Maximum Length —
is accepted by the strict reader with conformant text -/
def exBytes : Bytes :=
  [1, 0, 0, 0, 0, 115, 0, 1, 0, 0, 65, 0, 0, 0, 0, 0, 0, 0, 0, 0, 0, 0, 0, 0, 0, 0, 66, 67, 0, 0, 0, 0, 0, 0, 0, 0,
   0, 0, 0, 0, 0, 0, 0, 0, 0, 0, 0, 0, 0, 0, 0, 0, 0, 0, 0, 0, 0, 0, 0, 0, 0, 0, 0, 0, 0, 0, 0, 0, 0, 0, 0, 0, 0, 0,
   32, 0, 0, 19, 1, 0, 0, 0, 48, 0, 0, 1, 49, 64, 0, 0, 1, 50, 64, 0, 0, 1, 51, 16, 0, 0, 2, 49, 46,
   80, 0, 0, 14, 119, 0, 0, 2, 9, 9, 81, 0, 0, 4, 0, 0, 64, 0]

def exValue : Pdu := .rq
  { rsv1 := 0, protoVer := 1, rsv2 := 0,
    called := [65, 0, 0, 0, 0, 0, 0, 0, 0, 0, 0, 0, 0, 0, 0, 0],
    calling := [66, 67, 0, 0, 0, 0, 0, 0, 0, 0, 0, 0, 0, 0, 0, 0],
    rsv3 := [0, 0, 0, 0, 0, 0, 0, 0],
    items := [.pcRq 0 1 0 0 0 0 [49] [⟨0, [50]⟩, ⟨0, [51]⟩], .appCtx 0 [49, 46],
              .userInfo 0 [.generic 119 0 [9, 9], .maxLen 0 4 16384]] }

example : parsePdu exBytes = some exValue ∧ exValue.Conf := by
  refine ⟨by decide +kernel, ?_⟩
  -- `simp` walks the structure; the cases of `SubItem.Conf` (as a simp lemma its catch-all case costs seven refutations
  -- per sub-item) and the quantifiers over bytes are left to `decide`
  simp only [exValue, Pdu.Conf, Assoc.Conf, userInfoLast, Item.isUserInfo, Item.Conf, TsSub.Conf, List.forall_mem_cons,
    List.not_mem_nil, false_imp_iff, implies_true]
  unfold SubItem.Conf
  simp only [uidOk, trimmed, ascii]
  decide

end Dicom.C02
