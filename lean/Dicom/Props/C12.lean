import Dicom.Proofs.Peer
import Dicom.Proofs.Sched
import Dicom.Model.Pdu
/-! # C12 — no byte sequence from the peer can crash or hang the provider (model level)

The decoders of the model are total functions (`decodePdu : Bytes → Option Pdu`; Lean accepting the
definitions is the termination proof), so "undecodable" is a value — the `invalid` / `pdataErr` tokens of
the loop model — not an escape.  What the theorems cannot show is that the *Python* decoders raise
only where the model says `none` and never block: that is what the byte-level fuzzing of the real loop
in the harness checks. -/
namespace Dicom.C12
open Dicom.UL Dicom.Prov

/-- decoding any byte string yields a PDU or a rejection — never anything else, and it terminates -/
theorem decoders_total (bs : Bytes) : (∃ p, decodePdu bs = some p) ∨ decodePdu bs = none := by
  cases h : decodePdu bs with
  | none => exact Or.inr rfl
  | some p => exact Or.inl ⟨p, rfl⟩

/-- **the acceptor's loop never dies**: whatever the peer sends — valid, unexpected, undecodable
PDUs, P-DATA the DIMSE layer rejects, in any order and segmentation — whenever it closes or stays
silent, whenever ARTIM expires and whenever a transport write fails, no undefined transition is
reached. -/
theorem peer_cannot_crash_acceptor (σ : List Tick) (hσ : PeerOnly σ) : (run initAcc σ).1.crashed = false :=
  (run_peer initAcc_inv ⟨rfl, rfl, rfl⟩ hσ).alive

/-- ... stated over bytes: whatever bytes arrive, in whatever segments, with the peer closing anywhere, and
however the receive path classifies the complete PDUs among them (`cls` is arbitrary: decodable or not, valid
P-DATA or not), the acceptor's loop does not die -/
theorem no_byte_stream_crashes_acceptor (cls : Bytes → Rx) (s : List BNet) :
    (run initAcc (absTicks cls [] s)).1.crashed = false :=
  peer_cannot_crash_acceptor _ (fun t ht => (absTicks_netOnly cls s [] t ht).1)

/-- the same for the requester, after its user's A-ASSOCIATE request -/
theorem peer_cannot_crash_requester (σ : List Tick) (hσ : PeerOnly σ) :
    (run initReq ({ enq := [.rq] } :: σ)).1.crashed = false := by
  simp only [run]
  exact (run_peer (iter_inv initReq_inv) (by unfold NoUser; decide) hσ).alive

/-- **a PDU that is unrecognised or cannot be decoded is answered with A-ABORT**, with a provider-abort
indication where an association had been indicated, and the provider goes on to await the close -/
theorem bad_pdu_aborts (p : P) (t : Tick) (hq : Quiet p) (hs : p.sock = true) (h4 : p.st ≠ .s4)
    (hraw : ∃ r, p.raw = .invalid :: r) (hf : t.sendFails = false) :
    (iter p t).1.st = .s13 ∧ (∃ n, Out.sendAbort n ∈ (iter p t).2) ∧
    (p.st ≠ .s2 → p.st ≠ .s13 → Out.indAbort 2 ∈ (iter p t).2) := by
  obtain ⟨r, hr⟩ := hraw
  have h1 : p.st ≠ .s1 := hq.sock_iff.mp hs
  -- the poll takes the buffered PDU and raises Evt19, whose row is AA-1 / AA-7 / AA-8
  have step := fun a ht =>
    iter_step (t := t) (a := a) hq.alive hq.evq (.buffered _ _ hs h4 hr) (e := .e19) rfl ht (by simp [hf])
  rcases table_e19 h1 h4 with ⟨h2, ht⟩ | ⟨h13, ht⟩ | ⟨h2, h13, ht⟩ <;> rw [step _ ht, dropGen_eq]
  · exact ⟨rfl, ⟨0, List.mem_append_right _ (.head _)⟩, fun h => absurd h2 h⟩
  · exact ⟨rfl, ⟨2, List.mem_append_right _ (.head _)⟩, fun _ h => absurd h13 h⟩
  · rw [act_aa8]
    · exact ⟨rfl, ⟨2, List.mem_append_right _ (.head _)⟩, fun _ _ => List.mem_append_right _ (.tail _ (.head _))⟩
    · exact hs

-- non-vacuity
example : PeerOnly [{}, { net := .data [.invalid] }, { net := .eof }] := by simp [PeerOnly]

end Dicom.C12
