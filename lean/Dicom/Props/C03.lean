import Dicom.Props.C03Framing
import Dicom.Proofs.Sched
/-! # C03 — the provider loop is independent of how TCP segments the byte stream

The framing core (the receive buffer) is in `Props/C03Framing.lean`; here the loop model of C05
(`DULServiceProvider.run`) on top of it.  `Prov.consume` is the provider as a function of the peer's PDU stream; `Prov.run` is the loop, pass by
pass, under a schedule that says what the transport delivers before each pass.  `cls` is how the receive
path classifies a complete PDU (its type, and for P-DATA what the DIMSE decoder makes of it). -/
namespace Dicom.C03
open Dicom.Prov

/-- **C03 (provider loop, any delivery timing).** While only the network acts (no local primitive, no ARTIM
expiry, no write failure), what the loop has done after a schedule, followed by what the input it has not
yet read would still make it do, is what the whole delivered stream makes the provider do: the grouping
of PDUs into segments and the passes at which segments arrive do not matter. -/
theorem provider_is_function_of_stream (ts : List Tick) (p : P) (hp : Calm p) (hn : ∀ t ∈ ts, NetOnly t) :
    consume (core p) (stream p ++ dels ts) =
      ((consume (core (run p ts).1) (stream (run p ts).1)).1,
       (run p ts).2 ++ (consume (core (run p ts).1) (stream (run p ts).1)).2) :=
  (run_consume ts p hp hn).2

/-- **C03 (provider loop, any byte segmentation).** Two byte-level schedules that deliver the same byte
stream — cut anywhere, one byte at a time, all at once, with idle passes anywhere — optionally followed by
the peer's close, and then enough idle passes to read everything (`mu` many suffice), leave the provider in
the same state with the same ordered effects (PDUs sent, indications given, timer and socket operations). -/
theorem provider_segmentation_independent (cls : Bytes → Rx) (p : P) (hp : Calm p) (s₁ s₂ : List BNet)
    (h₁ : noEof s₁) (h₂ : noEof s₂) (hb : bytesOf s₁ = bytesOf s₂) (close : Bool) (n₁ n₂ : Nat)
    (hn₁ : mu (run p (absTicks cls [] s₁ ++ (if close then [({ net := .eof } : Tick)] else []))).1 ≤ n₁)
    (hn₂ : mu (run p (absTicks cls [] s₂ ++ (if close then [({ net := .eof } : Tick)] else []))).1 ≤ n₂) :
    core (run p (absTicks cls [] s₁ ++ (if close then [({ net := .eof } : Tick)] else []) ++ List.replicate n₁ ({} : Tick))).1 =
      core (run p (absTicks cls [] s₂ ++ (if close then [({ net := .eof } : Tick)] else []) ++ List.replicate n₂ ({} : Tick))).1 ∧
    (run p (absTicks cls [] s₁ ++ (if close then [({ net := .eof } : Tick)] else []) ++ List.replicate n₁ ({} : Tick))).2 =
      (run p (absTicks cls [] s₂ ++ (if close then [({ net := .eof } : Tick)] else []) ++ List.replicate n₂ ({} : Tick))).2 := by
  have hno : ∀ (s : List BNet), ∀ t ∈ absTicks cls [] s ++ (if close then [({ net := .eof } : Tick)] else []), NetOnly t :=
    fun s => List.forall_mem_append.mpr ⟨absTicks_netOnly cls s [], by cases close <;> simp [NetOnly]⟩
  have e₁ := run_settles hp (hno s₁) hn₁
  have e₂ := run_settles hp (hno s₂) hn₂
  rw [dels_append, dels_absTicks cls s₁ h₁ [] frames_nil, hb] at e₁
  rw [dels_append, dels_absTicks cls s₂ h₂ [] frames_nil] at e₂
  exact Prod.mk.inj (e₁.trans e₂.symm)

/-- non-vacuity: the acceptor waiting for its first PDU (Sta2, ARTIM just started) is calm, and a
one-byte-at-a-time delivery of a 10-byte PDU is a schedule the theorem covers -/
example : Calm { st := .s2, sock := true, timer := true, now := 1000, tstart := 1000 } ∧
    noEof [.data [5], .idle, .data [0, 0, 0, 0, 4], .data [0, 0], .data [0, 0]] ∧
    bytesOf [.data [5], .idle, .data [0, 0, 0, 0, 4], .data [0, 0], .data [0, 0]] = bytesOf [.data [5, 0, 0, 0, 0, 4, 0, 0, 0, 0]] :=
  ⟨⟨⟨rfl, rfl, fun _ => by decide, fun _ => by decide⟩, rfl⟩, trivial, rfl⟩

end Dicom.C03
