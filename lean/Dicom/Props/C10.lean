import Dicom.Model.Limits
import Dicom.Props.C06
/-! # C10 — the negotiated maximum PDU length is honoured in both directions, including 0 -/
namespace Dicom.C10

theorem limit_usable {own peer : Nat} (ho : usableMax own) (hp : usableMax peer) :
    usableMax (acceptorLimit own peer) := by
  fun_cases acceptorLimit own peer with
  | case1 => exact hp
  | case2 => exact ho

theorem limit_le_announced (own announced : Nat) (h : announced ≠ 0) :
    acceptorLimit own announced ≠ 0 ∧ acceptorLimit own announced ≤ announced := by
  fun_cases acceptorLimit own announced with
  | case1 => exact ⟨h, Nat.le_refl _⟩
  | case2 hc => exact ⟨fun h0 => hc ⟨h, .inl h0⟩, Nat.not_lt.1 fun hl => hc ⟨h, .inr hl⟩⟩

/-- **never exceeds the peer's announcement** (acceptor side): every P-DATA-TF of every message,
fragmented with the adopted limit, fits the value the peer announced. -/
theorem acceptor_never_exceeds_peer (own peer pc : Nat) (cmd : Bytes) (data : Option Bytes)
    (ho : usableMax own) (hp : 7 ≤ peer) :
    ∀ f ∈ encodeMsg pc (acceptorLimit own peer) cmd data, f.pduLength ≤ peer := by
  intro f hf
  have ⟨h0, hle⟩ := limit_le_announced own peer (by omega)
  have h7 := (limit_usable ho (.inr hp)).resolve_left h0
  exact Nat.le_trans (C06.frag_size_limit pc _ cmd data h7 f hf) hle

theorem requester_eq_acceptor (own announced : Nat) :
    requesterLimit own announced = acceptorLimit own announced := rfl

theorem requester_never_exceeds_peer (own announced pc : Nat) (cmd : Bytes) (data : Option Bytes)
    (ho : usableMax own) (hp : 7 ≤ announced) :
    ∀ f ∈ encodeMsg pc (requesterLimit own announced) cmd data, f.pduLength ≤ announced :=
  acceptor_never_exceeds_peer own announced pc cmd data ho hp

/-- **0 restricts nothing**: facing a peer that announces "no limit", a side keeps its own setting -/
theorem zero_is_unlimited (own : Nat) : acceptorLimit own 0 = own ∧ requesterLimit own 0 = own :=
  ⟨if_neg fun h => h.1 rfl, if_neg fun h => h.1 rfl⟩

/-- **always able to send**: for every pair of usable values the adopted limit is usable, so every
message of any size is transmitted completely (C06 `frag_content`) in non-empty fragments -/
theorem can_always_send (own peer pc : Nat) (cmd : Bytes) (data : Option Bytes)
    (ho : usableMax own) (hp : usableMax peer) :
    (((encodeMsg pc (acceptorLimit own peer) cmd data).filter (fun f => f.mch = 1 ∨ f.mch = 3)).map (·.body)).flatten = cmd ∧
    (((encodeMsg pc (acceptorLimit own peer) cmd data).filter (fun f => f.mch = 0 ∨ f.mch = 2)).map (·.body)).flatten
      = data.getD [] :=
  C06.frag_content pc _ cmd data (limit_usable ho hp)

/-- **announces within its own means**: with a configured limit the acceptor announces a non-zero
value not above it (with "no limit" configured any announcement is within its means) -/
theorem announces_within_own (own peer : Nat) (ho : own ≠ 0) :
    acceptorAnnounce own peer ≠ 0 ∧ acceptorAnnounce own peer ≤ own := by
  unfold acceptorAnnounce
  fun_cases acceptorLimit own peer with
  | case1 hc => exact ⟨hc.1, Nat.le_of_lt (hc.2.resolve_left ho)⟩
  | case2 => exact ⟨ho, Nat.le_refl _⟩

/-- both directions of one negotiation: requester configured `r` announces `r`; the acceptor
configured `a` adopts and announces `acceptorLimit a r`; the requester adopts
`requesterLimit r (that)`.  Neither adopted limit exceeds what the other side announced. -/
theorem both_directions (r a : Nat) (hr : usableMax r) (ha : usableMax a) :
    (r ≠ 0 → acceptorLimit a r ≠ 0 ∧ acceptorLimit a r ≤ r) ∧
    (acceptorAnnounce a r ≠ 0 →
      requesterLimit r (acceptorAnnounce a r) ≠ 0 ∧ requesterLimit r (acceptorAnnounce a r) ≤ acceptorAnnounce a r) :=
  ⟨limit_le_announced a r, limit_le_announced r _⟩

example : acceptorLimit 16384 0 = 16384 ∧ acceptorLimit 0 4096 = 4096 ∧ acceptorLimit 65536 128 = 128
    ∧ acceptorLimit 128 65536 = 128 ∧ acceptorLimit 0 0 = 0 := by decide

end Dicom.C10
