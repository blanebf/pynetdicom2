import Dicom.Proofs.Services
/-! # C19 — retrieve (C-GET / C-MOVE): each sub-operation exactly once, true progress -/
namespace Dicom.C19
open Dicom.Svc

/-- **true progress.** When the application supplies `nop > 0` instances and performs them all, the
response after the k-th sub-operation (k = 1..nop) counts k as performed and nop − k as remaining. -/
theorem move_progress (rq : Rq) (ctx nop : Nat) (os : List SubOutcome) (hn : nop ≠ 0) (k : Nat) (hk : k < os.length) :
    ∃ r, (moveScp rq ctx nop os)[k]? = some r ∧ r.status = MOVE_PENDING ∧
      r.counters.map (fun x => (x.completed, x.remaining)) = some (k + 1, nop - (k + 1)) := by
  have h := congrArg (·[k]?) (moveLoop_progress rq ctx nop os ⟨0, 0, 0, 0⟩)
  simp only [List.getElem?_map, List.getElem?_range hk, Option.map_some, Nat.zero_add] at h
  obtain ⟨r, hr, h⟩ := Option.map_eq_some_iff.mp h
  refine ⟨r, ?_, ?_, h⟩
  · rw [moveScp, if_neg hn, List.getElem?_append_left (List.getElem?_eq_some_iff.mp hr).1, hr]
  · obtain ⟨x, rfl⟩ := moveLoop_rsp (List.mem_of_getElem? hr)
    rfl

/-- **exactly one final response, and it is last** — also when there is nothing to move -/
theorem move_one_final (rq : Rq) (ctx nop : Nat) (os : List SubOutcome) :
    ∃ init last, moveScp rq ctx nop os = init ++ [last] ∧ last.status = SUCCESS ∧
      (∀ r ∈ init, r.status = MOVE_PENDING) ∧
      last.counters.map (·.completed) = some (if nop = 0 then 0 else os.length) := by
  fun_cases moveScp rq ctx nop os with
  | case1 h => exact ⟨[], _, rfl, rfl, List.forall_mem_nil _, by rw [if_pos h]; rfl⟩
  | case2 h =>
    refine ⟨_, _, rfl, rfl, fun r hr => ?_, ?_⟩
    · obtain ⟨x, rfl⟩ := moveLoop_rsp hr
      rfl
    · rw [if_neg h]
      exact congrArg some ((finalCounters_completed ..).trans (Nat.zero_add _))

/-- the final response of a complete move reports everything performed and nothing remaining -/
theorem move_final_complete (rq : Rq) (ctx : Nat) (os : List SubOutcome) (hn : os.length ≠ 0) :
    ∃ last, (moveScp rq ctx os.length os).getLast? = some last ∧
      last.counters.map (fun x => (x.completed, x.remaining)) = some (os.length, 0) := by
  rw [moveScp, if_neg hn, List.getLast?_concat]
  exact ⟨_, rfl, by simp [finalCounters_completed]⟩

/-- **each sub-operation exactly once, in order**: the provider stores instance k with message id k -/
theorem move_each_once_in_order (n : Nat) : (moveSubOps n).map (·.1) = List.range n := by
  rw [moveSubOps, List.map_map]; exact List.map_id _

/-- **C-GET user**: every incoming C-STORE request is answered exactly once, in arrival order, up to the
final C-GET response; pending C-GET responses in between change nothing. -/
theorem get_answers_each_once (l : List GetIn) (hp : ∀ s, GetIn.getRsp s ∈ l → isGetPending s = true) :
    (getScu l).1.map (fun r => (r.ctx, r.msgIdRsp)) =
      l.filterMap (fun x => match x with | .store rq ctx _ => some (ctx, rq.msgId) | .getRsp _ => none) := by
  rw [getScu_eq, active_of_pending hp, List.map_filterMap]
  congr 1; funext x; cases x <;> rfl

/-- the final C-GET response ends the operation: nothing after it is answered or yielded -/
theorem get_stops_at_final (s : Nat) (rest : List GetIn) (h : isGetPending s = false) :
    getScu (.getRsp s :: rest) = ([], []) := by
  simp [getScu, h]

/-- instances are handed to the caller once each and in order (those the handler accepted) -/
theorem get_yields_in_order (l : List GetIn) (hp : ∀ s, GetIn.getRsp s ∈ l → isGetPending s = true) :
    (getScu l).2 = l.filterMap (fun x => match x with
      | .store rq _ (.status _) => some rq | _ => none) := by
  rw [getScu_eq, active_of_pending hp]; rfl

example : (moveScp ⟨0x21, 4, [1], none, none⟩ 1 2 [.success, .failure]).map (fun r => (r.status, r.counters.map (·.completed)))
    = [(0xFF00, some 1), (0xFF00, some 2), (0, some 2)] := by decide

end Dicom.C19
