import Dicom.Proofs.Table
import Dicom.Generated.FsmObserved
/-! # C04 — the state machine performs the Table 9-10 action and transition in every cell

`Dicom.Generated.fsmObserved` is regenerated on every run: the real `StateMachine.action` is executed
on a recording provider for all 13 × 19 cells, both roles and two distinct primitives per event.
The domain is finite, so the theorems below are a complete decision of C04 for the running code,
re-made by the kernel on every run. -/
namespace Dicom.C04
open Dicom.UL Dicom.Generated

def variantOf (n : Nat) : Variant := if n = 0 then .v0 else .v1

/-- what the running code did in a cell (`raised "missing"` if the extractor did not visit it) -/
def observed (requestor : Bool) (s : St) (e : Ev) (v : Nat) : Obs :=
  match fsmObserved[(if requestor then 13 else 0) + (s.toNat - 1)]? with
  | some row => (row[(e.toNat - 1) * 2 + v]?).getD (.raised "missing")
  | none => .raised "missing"

theorem cells_ok : ∀ r ∈ [false, true], ∀ s ∈ allStates, ∀ e ∈ allEvents, ∀ v ∈ [0, 1],
    obsMatch (specCell r s e (variantOf v)) (observed r s e v) = true := by decide +kernel

/-- **C04.** In every cell of Table 9-10 — 13 states × 19 events, both roles, either variant of
the triggering primitive — the running state machine produces exactly the prescribed effects in the
prescribed order (PDU put on the wire, indication or confirmation to the user, transport close or
connect, ARTIM start/stop) and moves to the prescribed next state; in every cell the standard
leaves undefined it rejects the event with no effect at all and no state change. -/
theorem fsm_is_table_9_10 (requestor : Bool) (s : St) (e : Ev) (v : Nat) (hv : v = 0 ∨ v = 1) :
    obsMatch (specCell requestor s e (variantOf v)) (observed requestor s e v) = true :=
  cells_ok requestor (by cases requestor <;> simp) s (mem_allStates s) e (mem_allEvents e) v
    (by rcases hv with h | h <;> simp [h])

/-- undefined cells are inert: nothing on the wire, nothing to the user, connection and timer
untouched, state unchanged -/
theorem undefined_cells_inert (requestor : Bool) (s : St) (e : Ev) (v : Nat) (hv : v = 0 ∨ v = 1)
    (hu : table e s = none) : observed requestor s e v = .rejected := by
  have h := fsm_is_table_9_10 requestor s e v hv
  simp only [specCell, hu] at h
  -- only `rejected` matches `rejected`
  cases ho : observed requestor s e v <;> rw [ho] at h <;> first | rfl | cases h

/-- Table 9-10 has exactly 123 defined cells -/
theorem table_has_123_cells :
    ((allEvents.flatMap fun e => allStates.map fun s => table e s).filter Option.isSome).length = 123 := by
  decide +kernel

-- non-vacuity: a defined cell with several effects, and an undefined one
example : specCell false .s6 .e19 .v0 = .did [.sendAbort 2, .indAbort 2, .tStart] .s13 := by decide
example : table .e9 .s7 = none := by decide

end Dicom.C04
