import Dicom.Proofs.Services
/-! # C17 — every SCP response correlates with its request (message id, UIDs, context) -/
namespace Dicom.C17
open Dicom.Svc

/-- the correlation every response must satisfy -/
def Correlates (rq : Rq) (ctx : Nat) (r : Rsp) : Prop :=
  r.ctx = ctx ∧ r.msgIdRsp = rq.msgId ∧ r.sopClass = rq.sopClass ∧
  (rq.sopInstance.isSome → r.sopInstance = rq.sopInstance) ∧ r.kind = rspKindOf rq.kind

theorem verification_correlates (rq : Rq) (ctx : Nat) (o : Outcome) (hk : rq.kind = 0x0030) (hi : rq.sopInstance = none) :
    (∀ r ∈ verificationScp rq ctx o, Correlates rq ctx r ∧ r.status = statusOf PROCESSING_FAILURE o) ∧
    verificationScp rq ctx o ≠ [] := by
  simp [verificationScp, Correlates, rspKindOf, hk, hi]

theorem storage_correlates (rq : Rq) (ctx : Nat) (o : Outcome) (hk : rq.kind = 0x0001) :
    (∀ r ∈ storageScp rq ctx o, Correlates rq ctx r ∧ r.status = statusOf CANNOT_UNDERSTAND o) ∧
    storageScp rq ctx o ≠ [] := by
  simp [storageScp, Correlates, rspKindOf, hk]

theorem find_correlates (rq : Rq) (ctx : Nat) (ms : List (Bytes × Nat)) (hk : rq.kind = 0x0020) (hi : rq.sopInstance = none) :
    (∀ r ∈ findScp rq ctx ms, Correlates rq ctx r) ∧ findScp rq ctx ms ≠ [] := by
  constructor
  · intro r hr
    simp only [findScp, List.mem_append, List.mem_map, List.mem_singleton] at hr
    rcases hr with ⟨m, _, rfl⟩ | rfl <;> simp [Correlates, rspKindOf, hk, hi]
  · simp [findScp]

theorem move_correlates (rq : Rq) (ctx nop : Nat) (os : List SubOutcome) (hk : rq.kind = 0x0021) (hi : rq.sopInstance = none) :
    (∀ r ∈ moveScp rq ctx nop os, Correlates rq ctx r) ∧ moveScp rq ctx nop os ≠ [] := by
  -- every response, pending or final, is of this form
  have key (st : Nat) (c : Option Counters) : Correlates rq ctx
      { kind := 0x8021, ctx := ctx, msgIdRsp := rq.msgId, sopClass := rq.sopClass, status := st, counters := c } := by
    simp [Correlates, rspKindOf, hk, hi]
  fun_cases moveScp rq ctx nop os
  · exact ⟨List.forall_mem_singleton.mpr (key _ _), List.cons_ne_nil _ _⟩
  · refine ⟨List.forall_mem_append.mpr ⟨fun r hr => ?_, List.forall_mem_singleton.mpr (key _ _)⟩,
      List.append_ne_nil_of_right_ne_nil _ (List.cons_ne_nil _ _)⟩
    obtain ⟨x, rfl⟩ := moveLoop_rsp hr
    exact key _ _

theorem n_action_correlates (rq : Rq) (ctx : Nat) (o : Outcome) (hk : rq.kind = 0x0130) :
    (∀ r ∈ nActionScp rq ctx o, Correlates rq ctx r) ∧ nActionScp rq ctx o ≠ [] := by
  simp [nActionScp, Correlates, rspKindOf, hk]

theorem n_event_report_correlates (rq : Rq) (ctx : Nat) (o : Outcome) (hk : rq.kind = 0x0100) :
    (∀ r ∈ nEventReportScp rq ctx o, Correlates rq ctx r) ∧ nEventReportScp rq ctx o ≠ [] := by
  simp [nEventReportScp, Correlates, rspKindOf, hk]

/-- the C-STORE responses of the C-GET user: each incoming C-STORE request is answered, on the context
it arrived on, with its own message id, class and instance -/
theorem get_store_rsp_correlates : ∀ (l : List GetIn), ∀ r ∈ (getScu l).1,
    ∃ rq ctx o, GetIn.store rq ctx o ∈ l ∧ r.ctx = ctx ∧ r.msgIdRsp = rq.msgId ∧ r.sopClass = rq.sopClass ∧
      r.sopInstance = rq.sopInstance ∧ r.kind = 0x8001 ∧ r.status = statusOf CANNOT_UNDERSTAND o := by
  intro l r hr
  rw [getScu_eq] at hr
  obtain ⟨x, hx, hr⟩ := List.mem_filterMap.mp hr
  cases x with
  | getRsp s => cases hr
  | store rq ctx o =>
    cases hr
    exact ⟨rq, ctx, o, List.takeWhile_subset _ hx, rfl, rfl, rfl, rfl, rfl, rfl⟩

end Dicom.C17
