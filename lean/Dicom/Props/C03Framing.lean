import Dicom.Proofs.Framing
/-! # C03 — PDU framing is independent of how TCP segments the byte stream (framing core)

`frame1`/`frames`/`feed` mirror `DULServiceProvider._process_incoming` and the receive buffer
(`raw_pdu += data`).  The theorems hold for every byte stream and every partition of it. -/
namespace Dicom.C03

/-- **C03 (framing).** Delivering a stream in any segmentation — one byte at a time, everything at
once, cuts inside headers or bodies, several PDUs per segment — yields exactly the PDUs, in the
same order, and the same unconsumed residue as delivering it whole. -/
theorem segmentation_independent (segs : List Bytes) :
    segs.foldl feed ([], []) = frames segs.flatten := by
  simpa using segmentation_independent_gen segs [] [] frames_nil

/-- two segmentations of the same stream are indistinguishable -/
theorem any_two_segmentations (s₁ s₂ : List Bytes) (h : s₁.flatten = s₂.flatten) :
    s₁.foldl feed ([], []) = s₂.foldl feed ([], []) := by
  rw [segmentation_independent, segmentation_independent, h]

/-- no byte is lost, duplicated or reordered: the recognised PDUs followed by the residue are the
stream -/
theorem frames_concat (s : Bytes) : (frames s).1.flatten ++ (frames s).2 = s := (frames_spec s).1

/-- every recognised PDU is a complete one: at least a header, and exactly as long as its length
field says -/
theorem frames_wellformed (s : Bytes) : ∀ p ∈ (frames s).1, 6 ≤ p.length ∧ p.length = len32 p + 6 :=
  (frames_spec s).2.1

-- non-vacuity: an A-RELEASE-RQ followed by the first four bytes of an A-ABORT
example : frames [5, 0, 0, 0, 0, 4, 0, 0, 0, 0, 7, 0, 0, 0] = ([[5, 0, 0, 0, 0, 4, 0, 0, 0, 0]], [7, 0, 0, 0]) := by
  rw [frames_of_some (p := [5, 0, 0, 0, 0, 4, 0, 0, 0, 0]) (r := [7, 0, 0, 0]) (by decide),
    frames_of_none (by decide)]

end Dicom.C03
