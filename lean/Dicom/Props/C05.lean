import Dicom.Proofs.Peer
import Dicom.Proofs.Trace
/-! # C05 — the provider run as a whole behaves as the PS3.8 protocol machine (loop model)

`Prov.iter` is one pass of `DULServiceProvider.run`: socket reader, framing (abstracted to complete
PDUs, see C03), event queue, `Table 9-10` (the very `UL.table` C04 proves the code's state machine
equal to), timer, fragment generator.  A `Tick` is what the environment does before a pass: time
passing, user primitives enqueued, a segment or the peer's close reaching the transport, a transport
write failing.  The theorems quantify over **every** list of ticks — every history of events in any
interleaving, of any length. -/
namespace Dicom.C05
open Dicom.UL Dicom.Prov

/-- every reachable state satisfies the loop invariant, for both roles -/
theorem reachable_inv (σ : List Tick) : PInv (run initAcc σ).1 ∧ PInv (run initReq σ).1 :=
  ⟨run_inv initAcc_inv σ, run_inv initReq_inv σ⟩

/-- **ARTIM runs exactly while awaiting the first PDU or the peer's close** (Sta2, Sta13), and **an
idle provider has closed its connection**: in every reachable state, after every history. (The second
statement is about states with no event pending: the acceptor's very first pass and the pass right
after the reader saw the close are transient.) -/
theorem artim_exactly_and_idle_closed (init : P) (hi : init = initAcc ∨ init = initReq) (σ : List Tick) :
    (run init σ).1.crashed = false →
      ((run init σ).1.timer = true ↔ ((run init σ).1.st = .s2 ∨ (run init σ).1.st = .s13)) ∧
      ((run init σ).1.evq = [] → ((run init σ).1.st = .s1 ↔ (run init σ).1.sock = false)) := by
  intro hc
  have hinv : PInv (run init σ).1 := run_inv (hi.elim (· ▸ initAcc_inv) (· ▸ initReq_inv)) σ
  exact ⟨hinv.timerOk hc, fun he => (hinv.quiet hc he).idle_iff⟩

/-- **P-DATA only inside an established association**: in any pass, from any state, P-DATA is put on
the wire only in Sta6/Sta8 and a DIMSE message is handed to the user only in Sta6/Sta7. -/
theorem pdata_only_established (p : P) (t : Tick) :
    (Out.send .pdata ∈ (iter p t).2 → p.st = .s6 ∨ p.st = .s8) ∧
    (Out.indDimse ∈ (iter p t).2 → p.st = .s6 ∨ p.st = .s7) := by
  -- neither effect is the reader's close or the report of a crash: it comes from a cell of the table
  constructor <;> intro h <;> obtain ⟨⟨⟩⟩ | ⟨_, ⟨⟨⟩⟩ | ⟨⟨⟩⟩⟩ | ⟨e, a, ht, ho⟩ := iter_outs h
  · exact (cells_outs ht).1 ho
  · exact (cells_outs ht).2.1 ho

theorem silent_in_s13 {p : P} {t : Tick} (hs : p.st = .s13) (hc : (iter p t).1.crashed = false) :
    ∀ o ∈ (iter p t).2, isInd o = false := by
  intro o ho
  rcases iter_outs ho with rfl | ⟨h, _⟩ | ⟨e, a, htab, ho'⟩
  · rfl
  · cases hc.symm.trans h
  · exact (cells_outs htab).2.2 hs o ho'

/-- **silence after the end**: once the association is over (awaiting the peer's close, Sta13, with
nothing of the local user's pending), whatever the peer sends, its close, ARTIM expiry or a transport
failure produces no indication to the user. -/
theorem silent_after_end (p : P) (t : Tick) (hq : Quiet p) (hs : p.st = .s13)
    (hu : p.fromUser = []) (hg : p.gen = 0) (ht : t.enq = []) :
    ∀ o ∈ (iter p t).2, (∀ k, o ≠ .ind k) ∧ (∀ n, o ≠ .indAbort n) ∧ o ≠ .indDimse := by
  intro o ho
  -- with nothing of the user's pending the loop survives the pass
  have := silent_in_s13 hs (iter_peer hq.inv ⟨hq.alive, hu, hg⟩ ht).alive o ho
  refine ⟨fun k h => ?_, fun n h => ?_, fun h => ?_⟩ <;> rw [h] at this <;> cases this

/-- **the loop model performs the Table 9-10 actions**: for every action, the model's next state and
the sequence of its effects are those of the PS3.8 action definitions (`UL.effects`, which C04 proves
the running state machine performs in every cell) — with the transport open and the P-DATA, if any,
accepted by the DIMSE layer. -/
theorem act_is_table_9_10 (a : Act) (p : P) (hs : p.sock = true) (hrx : p.rx ≠ some .pdataErr) :
    (act a p).1.st = (effects a p.requestor (p.rx == some .pdataDone)).2 ∧
    (act a p).2.map shapeOfOut = (effects a p.requestor (p.rx == some .pdataDone)).1.map shapeOfEff :=
  act_shapes a p (fun _ => hs) hrx

-- non-vacuity: an association that is established, used and released
example : (run initAcc [{}, {net := .data [.rq]}, {enq := [.ac]}, {net := .data [.pdataDone]}, {enq := [.msg 1]}, {},
    {net := .data [.rlrq]}, {enq := [.rlrp]}, {net := .eof}]).1.st = .s1 := by decide

/-- **C05 (whole runs).** Over every history from either initial configuration — peer PDUs of any kind in any
order and segmentation, any user primitives, transport closes, ARTIM expiries, time passing — in which no
transport write fails, the DIMSE layer rejects no P-DATA and the loop does not die (the user issues nothing
Table 9-10 leaves undefined), the ordered effects of the provider (PDUs sent, indications, transport and timer
operations; payloads erased) and its final state are exactly those of the PS3.8 machine — `UL.table` and
`UL.effects`, which C04 proves equal to the running code cell by cell — run over the events dispatched; the only
other effect is the reader closing its side when it notices the peer's close, which happens exactly in the
passes that dispatch Evt17 (`reader_close_is_e17`). -/
theorem provider_follows_machine (init : P) (hi : init = initAcc ∨ init = initReq) (σ : List Tick)
    (hcl : ∀ t ∈ σ, CleanTick t) (halive : (run init σ).1.crashed = false) :
    machRun init.requestor .s1 (trace init σ) = some ((run init σ).2.map shapeOfOut, (run init σ).1.st) := by
  rcases hi with rfl | rfl
  · exact run_machine initAcc_inv (by simp [NoErr, initAcc, stream, flat]) halive hcl
  · exact run_machine initReq_inv (by simp [NoErr, initReq, stream, flat]) halive hcl

/-- the reader closes its side only in a pass that dispatches Evt17 (transport connection closed) -/
theorem reader_close_is_e17 (p : P) (t : Tick) (hc : p.crashed = false) (h : readerClose p t = true) :
    ∃ c, passEvent p t = some (.e17, c) :=
  Dicom.Prov.reader_close_is_e17 p t hc h

-- non-vacuity: the history of the previous example is clean and survives, and its trace is the expected
-- sequence of events
example : (∀ t ∈ [({} : Tick), {net := .data [.rq]}, {enq := [.ac]}, {net := .data [.pdataDone]}, {enq := [.msg 1]}, {},
      {net := .data [.rlrq]}, {enq := [.rlrp]}, {net := .eof}], CleanTick t) ∧
    (run initAcc [{}, {net := .data [.rq]}, {enq := [.ac]}, {net := .data [.pdataDone]}, {enq := [.msg 1]}, {},
      {net := .data [.rlrq]}, {enq := [.rlrp]}, {net := .eof}]).1.crashed = false ∧
    (trace initAcc [{}, {net := .data [.rq]}, {enq := [.ac]}, {net := .data [.pdataDone]}, {enq := [.msg 1]}, {},
      {net := .data [.rlrq]}, {enq := [.rlrp]}, {net := .eof}]).map (fun r => r.ev.map (·.1)) =
      [some .e5, some .e6, some .e7, some .e10, some .e9, some .e9, some .e12, some .e14, some .e17] := by
  refine ⟨?_, by decide, by decide⟩
  intro t ht
  simp only [List.mem_cons, List.not_mem_nil, or_false] at ht
  rcases ht with rfl | rfl | rfl | rfl | rfl | rfl | rfl | rfl | rfl <;> exact ⟨rfl, by simp⟩

/-- **full duplex**: whatever arrives from the network and whatever the user issues before the same pass, one poll
raises at most one event - the loop's single `primitive` slot belongs to it - and takes at most the head of the user's
queue -/
theorem one_event_per_poll (p : P) :
    ((poll p).evq = p.evq ∨ ∃ e, (poll p).evq = p.evq ++ [e]) ∧
    ((poll p).fromUser = p.fromUser ∨ ∃ x, p.fromUser = x :: (poll p).fromUser) :=
  Polled.one (poll_polled p)

/-- the user's primitives are consumed in the order they were issued and none is skipped, whatever the network does
meanwhile: after a pass the queue is the old queue plus what was issued, minus at most its head -/
theorem user_primitives_in_order (p : P) (t : Tick) (hc : p.crashed = false) :
    (iter p t).1.fromUser = p.fromUser ++ t.enq ∨ ∃ x, p.fromUser ++ t.enq = x :: (iter p t).1.fromUser := by
  rw [iter_alive t hc, dispatch_footprint]
  cases h : p.evq with
  | nil => exact (prePoll_polled t h).one.2
  | cons => rw [prePoll_cons t h]; exact .inl rfl

-- non-vacuity: a P-DATA arrives and the user issues a message and a release request before the same pass, in data
-- transfer: the network is served first, both primitives stay queued, in order
example : (iter { st := .s6, sock := true } { net := .data [.pdataDone], enq := [.msg 0, .rlrq] }).1.fromUser = [.msg 0, .rlrq] ∧
    (iter { st := .s6, sock := true } { net := .data [.pdataDone], enq := [.msg 0, .rlrq] }).2 = [.indDimse] := by decide

end Dicom.C05
